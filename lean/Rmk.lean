import Rmk.Model.Bytes
import Rmk.Model.Sha256
import Rmk.Model.Tree
import Rmk.Model.Types
import Rmk.Spec.Apply
import Rmk.Spec.Obj
import Rmk.Spec.Ssz
import Rmk.Impl.ByteLength
import Rmk.Impl.ClassTree
import Rmk.Impl.Codec
import Rmk.Impl.DeserTree
import Rmk.Impl.DeserWork
import Rmk.Impl.Elem
import Rmk.Impl.Fields
import Rmk.Impl.Heap
import Rmk.Impl.Iters
import Rmk.Impl.Layout
import Rmk.Impl.Misc
import Rmk.Impl.ObjTree
import Rmk.Impl.Repr
import Rmk.Impl.Store
import Rmk.Impl.StoreGuard
import Rmk.Impl.UintExtra
import Rmk.Impl.View
import Rmk.Impl.Virtual
import Rmk.Impl.VirtualApply
import Rmk.Impl.VirtualIter
import Rmk.Impl.VirtualView
import Rmk.Properties.All
