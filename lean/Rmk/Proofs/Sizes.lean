/-
Property C11: the length of `Spec.serialize t v`, for well-formed `t` and well-typed `v`, lies
between `minLen t` and `maxLen t`, both bounds are attained (witnesses `minVal`, `maxVal`), and a
fixed-size type always takes `fixedLen t > 0` bytes.
-/
import Rmk.Spec.Ssz
import Rmk.Proofs.BytesLemmas
import Rmk.Proofs.TypeLemmas
namespace Rmk
open Rmk.Spec

namespace Sizes

theorem partLen_mono (f : Bool) {a b : Nat} (h : a ≤ b) : partLen f a ≤ partLen f b := by
  cases f
  · exact Nat.add_le_add_left h 4
  · exact h

/-- length of a part list as it is laid out by `interleave` -/
def partsLen (parts : List (Bool × List UInt8)) : Nat :=
  (parts.map fun p => partLen p.1 p.2.length).sum

theorem partsLen_nil : partsLen [] = 0 := rfl

theorem partsLen_cons (f : Bool) (b : List UInt8) (rest : List (Bool × List UInt8)) :
    partsLen ((f, b) :: rest) = partLen f b.length + partsLen rest :=
  rfl

theorem fixedSection_length (parts : List (Bool × List UInt8)) (off : Nat) :
    (fixedSection parts off).length = fixedTotal parts := by
  induction parts generalizing off with
  | nil => rfl
  | cons p rest ih =>
    obtain ⟨f, b⟩ := p
    cases f <;> simp only [fixedSection, fixedTotal, List.length_append, toLE_length, ih]

theorem interleave_length_total (parts : List (Bool × List UInt8)) :
    (interleave parts).length = fixedTotal parts + (varSection parts).length := by
  rw [interleave, List.length_append, fixedSection_length]

end Sizes

theorem interleave_length (parts : List (Bool × List UInt8)) :
    (Spec.interleave parts).length = (parts.map fun p => Spec.partLen p.1 p.2.length).sum := by
  rw [Sizes.interleave_length_total]
  induction parts with
  | nil => rfl
  | cons p rest ih =>
    obtain ⟨f, b⟩ := p
    rw [List.map_cons, List.sum_cons, ← ih]
    cases f
    · rw [varSection, List.length_append]
      exact Nat.add_add_add_comm 4 _ _ _
    · exact Nat.add_assoc _ _ _

namespace Sizes

theorem interleave_map_true {α} (f : α → List UInt8) (xs : List α) :
    interleave (xs.map fun x => (true, f x)) = (xs.map f).flatten := by
  have h : ∀ off, fixedSection (xs.map fun x => (true, f x)) off = (xs.map f).flatten ∧
      varSection (xs.map fun x => (true, f x)) = [] := by
    induction xs with
    | nil => exact fun _ => ⟨rfl, rfl⟩
    | cons x xs ih =>
      intro off
      simp only [List.map_cons, fixedSection, varSection, List.flatten_cons, ih off, and_self]
  rw [interleave, (h _).1, (h 0).2, List.append_nil]

theorem fixedTotal_map_false {α} (f : α → List UInt8) (xs : List α) :
    fixedTotal (xs.map fun x => (false, f x)) = 4 * xs.length := by
  induction xs with
  | nil => rfl
  | cons x xs ih =>
    rw [List.map_cons, fixedTotal, ih, List.length_cons, Nat.mul_succ, Nat.add_comm]

theorem flatten_length_const {α} (k : Nat) (parts : List (List α))
    (h : ∀ p ∈ parts, p.length = k) : parts.flatten.length = k * parts.length := by
  rw [List.length_flatten, List.map_congr_left (g := fun _ => k) h, List.map_const',
    List.sum_replicate_nat, Nat.mul_comm]

theorem interleave_map_bounds {f : Bool} {t : Ty} {lo hi : Nat} {vs : List Val}
    (h : ∀ v ∈ vs, lo ≤ (serialize t v).length ∧ (serialize t v).length ≤ hi) :
    vs.length * partLen f lo ≤ (interleave (vs.map fun v => (f, serialize t v))).length ∧
    (interleave (vs.map fun v => (f, serialize t v))).length ≤ vs.length * partLen f hi := by
  rw [interleave_length]
  induction vs with
  | nil => exact ⟨Nat.le_of_eq (Nat.zero_mul _), Nat.le_of_eq (Nat.zero_mul _).symm⟩
  | cons v vs ih =>
    have hv := h v List.mem_cons_self
    have ih := ih fun w hw => h w (List.mem_cons_of_mem v hw)
    rw [List.map_cons, List.map_cons, List.sum_cons, List.length_cons, Nat.succ_mul, Nat.succ_mul,
      Nat.add_comm (partLen f _)]
    exact ⟨Nat.add_le_add ih.1 (partLen_mono f hv.1), Nat.add_le_add ih.2 (partLen_mono f hv.2)⟩

/-- the delimiter bit always opens or completes a byte -/
theorem bitlist_length (bs : List Bool) :
    (bitsToBytes (bs ++ [true])).length = bs.length / 8 + 1 := by
  rw [bitsToBytes_length, List.length_append]
  exact Nat.add_div_right bs.length (Nat.zero_lt_succ 7)

theorem minLenMin_le_head (t : Ty) (ts : List Ty) : minLenMin (t :: ts) ≤ minLen t := by
  cases ts with
  | nil => exact Nat.le_refl _
  | cons t' ts' => exact Nat.min_le_left _ _

end Sizes

open Sizes

mutual
theorem serialize_bounds (t : Ty) (v : Val) (hwf : t.wf = true) (hwt : WT t v = true) :
    Spec.minLen t ≤ (Spec.serialize t v).length ∧ (Spec.serialize t v).length ≤ Spec.maxLen t := by
  -- `WT` inverted per type former; a fixed-length former gives both bounds from one equation, a sequence from
  -- the bounds of its elements (`interleave_map_bounds`)
  cases t with
  | uint nb =>
    obtain ⟨n, rfl, _⟩ := WT_uint_inv hwt
    exact Nat.le_antisymm_iff.1 (toLE_length nb n).symm
  | bool =>
    obtain ⟨n, rfl, _⟩ := WT_bool_inv hwt
    exact Nat.le_antisymm_iff.1 rfl
  | bitvector n =>
    obtain ⟨bs, rfl, rfl⟩ := WT_bitvector_inv hwt
    exact Nat.le_antisymm_iff.1 (bitsToBytes_length bs).symm
  | bitlist lim =>
    obtain ⟨bs, rfl, hlen⟩ := WT_bitlist_inv hwt
    unfold serialize minLen maxLen; simp only [bitlist_length]
    exact ⟨Nat.le_add_left 1 _, Nat.succ_le_succ (Nat.div_le_div_right hlen)⟩
  | bytevector n =>
    obtain ⟨bs, rfl, rfl⟩ := WT_bytevector_inv hwt
    exact Nat.le_antisymm_iff.1 rfl
  | bytelist lim =>
    obtain ⟨bs, rfl, hlen⟩ := WT_bytelist_inv hwt
    exact ⟨Nat.zero_le _, hlen⟩
  | vector t n =>
    obtain ⟨vs, rfl, rfl, hall⟩ := WT_vector_inv hwt
    exact interleave_map_bounds fun v hv => serialize_bounds t v (Ty.wf_vector hwf).2 (hall v hv)
  | list t lim =>
    obtain ⟨vs, rfl, hlen, hall⟩ := WT_list_inv hwt
    have h := fun v hv => serialize_bounds t v (Ty.wf_list hwf) (hall v hv)
    exact ⟨Nat.zero_le _, Nat.le_trans (interleave_map_bounds h).2 (Nat.mul_le_mul_right _ hlen)⟩
  | container fs =>
    obtain ⟨vs, rfl, hvs⟩ := WT_container_inv hwt
    exact serializeFields_bounds fs vs (Ty.wf_container hwf).2 hvs
  | union hasNone opts =>
    obtain ⟨sel, w, rfl, hw⟩ := WT_union_inv hwt
    unfold serialize minLen maxLen; simp only [List.length_cons]
    by_cases hc : (hasNone && sel == 0) = true
    · rw [if_pos hc, if_pos (Bool.and_eq_true_iff.1 hc).1]
      exact ⟨Nat.le_refl 1, Nat.le_add_right 1 _⟩
    · rw [if_neg hc] at hw ⊢
      have h := serializeOpt_bounds opts (optIndex hasNone sel) w (Ty.wf_union hwf).2 hw
      have hmin : (if hasNone = true then 0 else minLenMin opts) ≤ minLenMin opts := by
        split
        · exact Nat.zero_le _
        · exact Nat.le_refl _
      rw [Nat.add_comm 1, Nat.add_comm 1]
      exact ⟨Nat.succ_le_succ (Nat.le_trans hmin h.1), Nat.succ_le_succ h.2⟩

theorem serializeFields_bounds (fs : List Ty) (vs : List Val) (hwf : Ty.wfList fs = true)
    (hwt : WTs fs vs = true) :
    Spec.minLenSum fs ≤ (Spec.interleave (Spec.serializeFields fs vs)).length ∧
    (Spec.interleave (Spec.serializeFields fs vs)).length ≤ Spec.maxLenSum fs := by
  cases fs with
  | nil =>
    cases WTs_nil_inv hwt
    exact ⟨Nat.le_refl 0, Nat.le_refl 0⟩
  | cons t ts =>
    obtain ⟨v, vs, rfl, hv, hvs⟩ := WTs_cons_inv hwt
    obtain ⟨ht, hts⟩ := Ty.wfList_cons hwf
    have h1 := serialize_bounds t v ht hv
    have h2 := serializeFields_bounds ts vs hts hvs
    rw [interleave_length] at h2 ⊢
    exact ⟨Nat.add_le_add (partLen_mono _ h1.1) h2.1, Nat.add_le_add (partLen_mono _ h1.2) h2.2⟩

theorem serializeOpt_bounds (opts : List Ty) (k : Nat) (v : Val) (hwf : Ty.wfList opts = true)
    (hwt : WTopt opts k v = true) :
    Spec.minLenMin opts ≤ (Spec.serializeOpt opts k v).length ∧
    (Spec.serializeOpt opts k v).length ≤ Spec.maxLenMax opts := by
  cases opts with
  | nil => cases hwt
  | cons t ts =>
    obtain ⟨ht, hts⟩ := Ty.wfList_cons hwf
    cases k with
    | zero =>
      have h := serialize_bounds t v ht hwt
      exact ⟨Nat.le_trans (minLenMin_le_head t ts) h.1, Nat.le_trans h.2 (Nat.le_max_left _ _)⟩
    | succ k =>
      have h := serializeOpt_bounds ts k v hts hwt
      cases ts with
      | nil => cases hwt
      | cons t' ts' =>
        exact ⟨Nat.le_trans (Nat.min_le_right _ _) h.1, Nat.le_trans h.2 (Nat.le_max_right _ _)⟩
end

mutual
theorem fixed_min_max (t : Ty) (hwf : t.wf = true) (hf : Spec.isFixed t = true) :
    Spec.minLen t = Spec.fixedLen t ∧ Spec.maxLen t = Spec.fixedLen t := by
  cases t with
  | uint _ | bool | bitvector _ | bytevector _ => exact ⟨rfl, rfl⟩
  | bitlist _ | bytelist _ | list _ _ | union _ _ => cases hf
  | vector t n =>
    have hf : isFixed t = true := hf
    have ih := fixed_min_max t (Ty.wf_vector hwf).2 hf
    unfold minLen maxLen partLen; simp only [fixedLen, hf, if_true, ih, and_self]
  | container fs => exact fixedSum_min_max fs (Ty.wf_container hwf).2 hf

theorem fixedSum_min_max (fs : List Ty) (hwf : Ty.wfList fs = true)
    (hf : Spec.allFixed fs = true) :
    Spec.minLenSum fs = Spec.fixedLenSum fs ∧ Spec.maxLenSum fs = Spec.fixedLenSum fs := by
  cases fs with
  | nil => exact ⟨rfl, rfl⟩
  | cons t ts =>
    obtain ⟨hft, hfts⟩ := Bool.and_eq_true_iff.1 hf
    obtain ⟨ht, hts⟩ := Ty.wfList_cons hwf
    have h1 := fixed_min_max t ht hft
    have h2 := fixedSum_min_max ts hts hfts
    unfold minLenSum maxLenSum fixedLenSum partLen; simp only [hft, if_true, h1, h2, and_self]
end

theorem serialize_fixed (t : Ty) (v : Val) (hwf : t.wf = true) (hwt : WT t v = true)
    (hf : Spec.isFixed t = true) : (Spec.serialize t v).length = Spec.fixedLen t := by
  have h1 := serialize_bounds t v hwf hwt
  have h2 := fixed_min_max t hwf hf
  exact Nat.le_antisymm (h2.2 ▸ h1.2) (h2.1 ▸ h1.1)

mutual
theorem fixedLen_pos (t : Ty) (hwf : t.wf = true) (hf : Spec.isFixed t = true) :
    0 < Spec.fixedLen t := by
  cases t with
  | uint nb => exact Nat.pos_of_ne_zero (by rintro rfl; cases hwf)
  | bool => exact Nat.one_pos
  | bitvector n => exact Nat.div_pos (Nat.add_le_add_right (of_decide_eq_true hwf) 7) (by decide)
  | bytevector n => exact of_decide_eq_true hwf
  | bitlist _ | bytelist _ | list _ _ | union _ _ => cases hf
  | vector t n =>
    obtain ⟨hn, ht⟩ := Ty.wf_vector hwf
    exact Nat.mul_pos hn (fixedLen_pos t ht hf)
  | container fs =>
    obtain ⟨hne, hfs⟩ := Ty.wf_container hwf
    exact fixedLenSum_pos fs hfs hf hne

theorem fixedLenSum_pos (fs : List Ty) (hwf : Ty.wfList fs = true)
    (hf : Spec.allFixed fs = true) (hne : fs ≠ []) : 0 < Spec.fixedLenSum fs := by
  cases fs with
  | nil => exact absurd rfl hne
  | cons t ts =>
    exact Nat.add_pos_left
      (fixedLen_pos t (Ty.wfList_cons hwf).1 (Bool.and_eq_true_iff.1 hf).1) _
end

mutual
/-- a value of minimal serialized length: `Spec.zeroVal`, except that a union without `None` takes
    its shortest option, not option 0 -/
def minVal : Ty → Val
  | .uint _ => .num 0
  | .bool => .num 0
  | .bitvector n => .bits (List.replicate n false)
  | .bitlist _ => .bits []
  | .bytevector n => .bytes (zeros n)
  | .bytelist _ => .bytes []
  | .vector t n => .seq (List.replicate n (minVal t))
  | .list _ _ => .seq []
  | .container fs => .seq (minVals fs)
  | .union true _ => .un 0 .none
  | .union false opts => .un (minOpt opts).1 (minOpt opts).2
def minVals : List Ty → List Val
  | [] => []
  | t :: ts => minVal t :: minVals ts
/-- (index, value) of an option of minimal serialized length -/
def minOpt : List Ty → Nat × Val
  | [] => (0, .none)
  | t :: ts =>
    if ts.isEmpty || minLen t ≤ minLenMin ts then (0, minVal t)
    else ((minOpt ts).1 + 1, (minOpt ts).2)
end

mutual
def maxVal : Ty → Val
  | .uint _ => .num 0
  | .bool => .num 0
  | .bitvector n => .bits (List.replicate n false)
  | .bitlist lim => .bits (List.replicate lim false)
  | .bytevector n => .bytes (zeros n)
  | .bytelist lim => .bytes (zeros lim)
  | .vector t n => .seq (List.replicate n (maxVal t))
  | .list t lim => .seq (List.replicate lim (maxVal t))
  | .container fs => .seq (maxVals fs)
  | .union hasNone opts => .un ((maxOpt opts).1 + (if hasNone then 1 else 0)) (maxOpt opts).2
def maxVals : List Ty → List Val
  | [] => []
  | t :: ts => maxVal t :: maxVals ts
def maxOpt : List Ty → Nat × Val
  | [] => (0, .none)
  | t :: ts =>
    if maxLenMax ts ≤ maxLen t then (0, maxVal t)
    else ((maxOpt ts).1 + 1, (maxOpt ts).2)
end

/-- the vector and list witnesses are `n` copies of the element's witness -/
theorem Sizes.replicate_spec {t : Ty} {v : Val} {a : Nat} (n : Nat)
    (h : WT t v = true ∧ (serialize t v).length = a) :
    (List.replicate n v).all (WT t) = true ∧
    (interleave ((List.replicate n v).map fun w => (isFixed t, serialize t w))).length =
      n * partLen (isFixed t) a :=
  ⟨List.all_eq_true.2 fun _ hw => List.eq_of_mem_replicate hw ▸ h.1,
   by rw [List.map_replicate, interleave_length, List.map_replicate, List.sum_replicate_nat, h.2]⟩

mutual
theorem Sizes.minVal_spec (t : Ty) (hwf : t.wf = true) :
    WT t (minVal t) = true ∧ (serialize t (minVal t)).length = minLen t := by
  cases t with
  | uint nb => exact ⟨decide_eq_true (Nat.two_pow_pos _), toLE_length nb 0⟩
  | bool => exact ⟨rfl, rfl⟩
  | bitvector n =>
    exact ⟨beq_iff_eq.2 List.length_replicate,
      (bitsToBytes_length _).trans (congrArg (fun k => (k + 7) / 8) List.length_replicate)⟩
  | bytevector n => exact ⟨beq_iff_eq.2 (zeros_length n), zeros_length n⟩
  | bitlist lim => exact ⟨decide_eq_true (Nat.zero_le lim), bitlist_length []⟩
  | bytelist lim => exact ⟨decide_eq_true (Nat.zero_le lim), rfl⟩
  | vector t n =>
    have hr := replicate_spec n (Sizes.minVal_spec t (Ty.wf_vector hwf).2)
    exact ⟨Bool.and_eq_true_iff.2 ⟨beq_iff_eq.2 List.length_replicate, hr.1⟩, hr.2⟩
  | list t lim => exact ⟨rfl, rfl⟩
  | container fs =>
    have h := Sizes.minVals_spec fs (Ty.wf_container hwf).2
    exact ⟨h.1, (interleave_length _).trans h.2⟩
  | union hasNone opts =>
    cases hasNone with
    | true => exact ⟨rfl, rfl⟩
    | false =>
      have hw := Ty.wf_union hwf
      have ih := Sizes.minOpt_spec opts hw.2 hw.1
      exact ⟨ih.1, (congrArg Nat.succ ih.2).trans (Nat.add_comm _ 1)⟩

theorem Sizes.minVals_spec (fs : List Ty) (hwf : Ty.wfList fs = true) :
    WTs fs (minVals fs) = true ∧ partsLen (serializeFields fs (minVals fs)) = minLenSum fs := by
  cases fs with
  | nil => exact ⟨rfl, rfl⟩
  | cons t ts =>
    obtain ⟨ht, hts⟩ := Ty.wfList_cons hwf
    have h1 := Sizes.minVal_spec t ht
    have h2 := Sizes.minVals_spec ts hts
    simp only [minVals, WTs, serializeFields, minLenSum, partsLen_cons, h1, h2, Bool.and_self,
      and_self]

theorem Sizes.minOpt_spec (opts : List Ty) (hwf : Ty.wfList opts = true) (hne : opts ≠ []) :
    WTopt opts (minOpt opts).1 (minOpt opts).2 = true ∧
    (serializeOpt opts (minOpt opts).1 (minOpt opts).2).length = minLenMin opts := by
  cases opts with
  | nil => exact absurd rfl hne
  | cons t ts =>
    obtain ⟨ht, hts⟩ := Ty.wfList_cons hwf
    have h1 := Sizes.minVal_spec t ht
    cases ts with
    | nil => exact h1
    | cons t' ts' =>
      have h2 := Sizes.minOpt_spec (t' :: ts') hts (List.cons_ne_nil _ _)
      -- here `minLenMin (t :: t' :: ts')` unfolds to `min (minLen t) (minLenMin (t' :: ts'))`
      rw [minOpt]
      split
      · next hc => exact ⟨h1.1, h1.2.trans (Nat.min_eq_left (of_decide_eq_true hc)).symm⟩
      · next hc =>
        have hc : minLenMin (t' :: ts') ≤ minLen t := Nat.le_of_not_le fun h => hc (decide_eq_true h)
        exact ⟨h2.1, h2.2.trans (Nat.min_eq_right hc).symm⟩
end

mutual
theorem Sizes.maxVal_spec (t : Ty) (hwf : t.wf = true) :
    WT t (maxVal t) = true ∧ (serialize t (maxVal t)).length = maxLen t := by
  cases t with
  -- where all values have one length, the witness is that of the minimum
  | uint _ | bool | bitvector _ | bytevector _ => exact Sizes.minVal_spec _ hwf
  | bitlist lim =>
    exact ⟨decide_eq_true (Nat.le_of_eq List.length_replicate),
      (bitlist_length _).trans (congrArg (· / 8 + 1) List.length_replicate)⟩
  | bytelist lim => exact ⟨decide_eq_true (Nat.le_of_eq (zeros_length lim)), zeros_length lim⟩
  | vector t n =>
    have hr := replicate_spec n (Sizes.maxVal_spec t (Ty.wf_vector hwf).2)
    exact ⟨Bool.and_eq_true_iff.2 ⟨beq_iff_eq.2 List.length_replicate, hr.1⟩, hr.2⟩
  | list t lim =>
    have hr := replicate_spec lim (Sizes.maxVal_spec t (Ty.wf_list hwf))
    exact ⟨Bool.and_eq_true_iff.2 ⟨decide_eq_true (Nat.le_of_eq List.length_replicate), hr.1⟩, hr.2⟩
  | container fs =>
    have h := Sizes.maxVals_spec fs (Ty.wf_container hwf).2
    exact ⟨h.1, (interleave_length _).trans h.2⟩
  | union hasNone opts =>
    have hw := Ty.wf_union hwf
    have ih := Sizes.maxOpt_spec opts hw.2 hw.1
    -- selector and option index compute once `hasNone` is known
    cases hasNone <;> exact ⟨ih.1, (congrArg Nat.succ ih.2).trans (Nat.add_comm _ 1)⟩

theorem Sizes.maxVals_spec (fs : List Ty) (hwf : Ty.wfList fs = true) :
    WTs fs (maxVals fs) = true ∧ partsLen (serializeFields fs (maxVals fs)) = maxLenSum fs := by
  cases fs with
  | nil => exact ⟨rfl, rfl⟩
  | cons t ts =>
    obtain ⟨ht, hts⟩ := Ty.wfList_cons hwf
    have h1 := Sizes.maxVal_spec t ht
    have h2 := Sizes.maxVals_spec ts hts
    simp only [maxVals, WTs, serializeFields, maxLenSum, partsLen_cons, h1, h2, Bool.and_self,
      and_self]

theorem Sizes.maxOpt_spec (opts : List Ty) (hwf : Ty.wfList opts = true) (hne : opts ≠ []) :
    WTopt opts (maxOpt opts).1 (maxOpt opts).2 = true ∧
    (serializeOpt opts (maxOpt opts).1 (maxOpt opts).2).length = maxLenMax opts := by
  cases opts with
  | nil => exact absurd rfl hne
  | cons t ts =>
    obtain ⟨ht, hts⟩ := Ty.wfList_cons hwf
    have h1 := Sizes.maxVal_spec t ht
    rw [maxOpt, maxLenMax]
    split
    · next hc => exact ⟨h1.1, h1.2.trans (Nat.max_eq_left hc).symm⟩
    · next hc =>
      -- the tail holds a longer option, so it is not empty
      have hts' : ts ≠ [] := fun he => hc (by subst he; exact Nat.zero_le _)
      have h2 := Sizes.maxOpt_spec ts hts hts'
      exact ⟨h2.1, h2.2.trans (Nat.max_eq_right (Nat.le_of_not_le hc)).symm⟩
end

end Rmk
