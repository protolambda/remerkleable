import Rmk.Impl.Repr
namespace Rmk
open Rmk.Impl

theorem allSome_eq_some_iff {α} : ∀ (xs : List (Option α)) (l : List α),
    allSome xs = some l ↔ xs = l.map some
  | [], l => by cases l <;> simp [allSome]
  | none :: xs, l => by cases l <;> simp [allSome]
  | some a :: xs, [] => by simp [allSome]
  | some a :: xs, b :: l => by
    rw [allSome, Option.map_eq_some_iff, List.map_cons, List.cons.injEq, Option.some.injEq]
    constructor
    · rintro ⟨ys, h, h2⟩
      cases h2
      exact ⟨rfl, (allSome_eq_some_iff xs l).1 h⟩
    · rintro ⟨rfl, h⟩
      exact ⟨l, (allSome_eq_some_iff xs l).2 h, rfl⟩

theorem allSome_map_some {α β} (l : List α) (f : α → Option β) (g : α → β)
    (h : ∀ x ∈ l, f x = some (g x)) : allSome (l.map f) = some (l.map g) := by
  rw [allSome_eq_some_iff, List.map_map]
  exact List.map_congr_left h

theorem allSome_map_isSome {α β} (f : α → Option β) (vs : List α)
    (h : ∀ v ∈ vs, (f v).isSome = true) : (allSome (vs.map f)).isSome = true := by
  induction vs with
  | nil => rfl
  | cons v vs ih =>
    have h1 := h v (by simp)
    have h2 := ih (fun w hw => h w (by simp [hw]))
    rw [Option.isSome_iff_exists] at h1 h2
    obtain ⟨n, hn⟩ := h1
    obtain ⟨ms, hms⟩ := h2
    simp [allSome, hn, hms]

theorem allSome_range_iff {β} {k : Nat} {f : Nat → Option β} {l : List β} :
    allSome ((List.range k).map f) = some l ↔ l.length = k ∧ ∀ i, i < k → f i = l[i]? := by
  rw [allSome_eq_some_iff]
  constructor
  · intro e
    have hlen : l.length = k := by simpa using (congrArg List.length e).symm
    refine ⟨hlen, fun i hi => ?_⟩
    have := congrArg (fun xs => xs[i]?) e
    simpa only [List.getElem?_map, List.getElem?_range hi, Option.map_some,
      List.getElem?_eq_getElem (hlen ▸ hi), Option.some.injEq] using this
  · rintro ⟨rfl, h⟩
    apply List.ext_getElem?
    intro i
    by_cases hi : i < l.length
    · rw [List.getElem?_map, List.getElem?_range hi, Option.map_some, h i hi, List.getElem?_map]
      rw [List.getElem?_eq_getElem hi]
      rfl
    · rw [List.getElem?_eq_none (by simpa using hi), List.getElem?_eq_none (by simpa using hi)]

theorem allSome_range_iff_getD {β} {k : Nat} {f : Nat → Option β} {l : List β} (d : β) :
    allSome ((List.range k).map f) = some l ↔
      l.length = k ∧ ∀ i, i < k → f i = some (l.getD i d) := by
  rw [allSome_range_iff]
  refine and_congr_right fun hl => forall₂_congr fun i hi => ?_
  rw [List.getD_eq_getElem?_getD, List.getElem?_eq_getElem (hl ▸ hi)]
  rfl

theorem allSome_range_eq {β} (k : Nat) (l : List β) (f : Nat → Option β) (hk : l.length = k)
    (h : ∀ i (hi : i < l.length), f i = some l[i]) :
    allSome ((List.range k).map f) = some l :=
  allSome_range_iff.2 ⟨hk, fun i hi => by
    rw [h i (hk ▸ hi), List.getElem?_eq_getElem (hk ▸ hi)]⟩

theorem allSome_range_getElem {β} (l : List β) (f : Nat → Option β)
    (h : ∀ i (hi : i < l.length), f i = some l[i]) :
    allSome ((List.range l.length).map f) = some l :=
  allSome_range_eq _ l f rfl h

theorem map_getElem?_eq_some {α β} {l : List α} {i : Nat} {f : α → β} {y : β}
    (h : (l[i]?).map f = some y) : ∃ hi : i < l.length, f l[i] = y := by
  rw [Option.map_eq_some_iff] at h
  obtain ⟨a, ha, hf⟩ := h
  obtain ⟨hi, rfl⟩ := List.getElem?_eq_some_iff.1 ha
  exact ⟨hi, hf⟩

section AllRel
variable {α β γ : Type _} {R : α → β → Prop}

theorem allRel_length : ∀ {as : List α} {bs : List β}, AllRel R as bs → as.length = bs.length
  | [], [], _ => rfl
  | _ :: as, _ :: bs, h => by
    have := allRel_length (as := as) (bs := bs) h.2
    simp [this]
  | [], _ :: _, h => by cases h
  | _ :: _, [], h => by cases h

theorem allRel_get : ∀ {as : List α} {bs : List β}, AllRel R as bs →
    ∀ (i : Nat) (h1 : i < as.length) (h2 : i < bs.length), R as[i] bs[i]
  | [], [], _, i, h1, _ => by simp at h1
  | a :: as, b :: bs, h, i, h1, h2 => by
    cases i with
    | zero => exact h.1
    | succ i => exact allRel_get (as := as) (bs := bs) h.2 i (by simpa using h1) (by simpa using h2)
  | [], _ :: _, h, _, _, _ => by cases h
  | _ :: _, [], h, _, _, _ => by cases h

theorem allRel_getD {as : List α} {bs : List β} (h : AllRel R as bs) (i : Nat) {a : α} {b : β}
    (hab : R a b) : R (as.getD i a) (bs.getD i b) := by
  fun_induction AllRel R as bs generalizing i with
  | case1 => exact hab
  | case2 x as y bs ih =>
    cases i with
    | zero => exact h.1
    | succ i => exact ih h.2 i
  | case3 => exact h.elim

theorem allRel_set {as : List α} {bs : List β} (h : AllRel R as bs) (i : Nat) {a : α} {b : β}
    (hab : R a b) : AllRel R (as.set i a) (bs.set i b) := by
  fun_induction AllRel R as bs generalizing i with
  | case1 => exact trivial
  | case2 x as y bs ih =>
    cases i with
    | zero => exact ⟨hab, h.2⟩
    | succ i => exact ⟨h.1, ih h.2 i⟩
  | case3 => exact h.elim

theorem allRel_append_singleton : ∀ {as : List α} {bs : List β}, AllRel R as bs →
    ∀ {a : α} {b : β}, R a b → AllRel R (as ++ [a]) (bs ++ [b])
  | [], [], _, _, _, hr => ⟨hr, trivial⟩
  | x :: as, y :: bs, h, _, _, hr =>
    ⟨h.1, allRel_append_singleton (as := as) (bs := bs) h.2 hr⟩
  | [], _ :: _, h, _, _, _ => by cases h
  | _ :: _, [], h, _, _, _ => by cases h

theorem allRel_dropLast : ∀ {as : List α} {bs : List β}, AllRel R as bs →
    AllRel R as.dropLast bs.dropLast
  | [], [], _ => trivial
  | [_], [_], _ => trivial
  | x :: x' :: as, y :: y' :: bs, h =>
    ⟨h.1, allRel_dropLast (as := x' :: as) (bs := y' :: bs) h.2⟩
  | [], _ :: _, h => by cases h
  | _ :: _, [], h => by cases h
  | [_], _ :: _ :: _, h => by cases h.2
  | _ :: _ :: _, [_], h => by cases h.2

theorem allRel_replicate (k : Nat) {a : α} {b : β} (hab : R a b) :
    AllRel R (List.replicate k a) (List.replicate k b) := by
  induction k with
  | zero => exact trivial
  | succ k ih => exact ⟨hab, ih⟩

theorem allRel_of_allSome (f : α → Option β) (vs : List α) (ns : List β)
    (h : allSome (vs.map f) = some ns) (hR : ∀ v ∈ vs, ∀ n, f v = some n → R v n) :
    AllRel R vs ns := by
  induction vs generalizing ns with
  | nil => cases h; trivial
  | cons v vs ih =>
    rw [List.map_cons] at h
    cases hf : f v with
    | none => rw [hf] at h; cases h
    | some n =>
      rw [hf, allSome, Option.map_eq_some_iff] at h
      obtain ⟨ms, hms, rfl⟩ := h
      exact ⟨hR v (List.mem_cons_self ..) n hf,
        ih ms hms fun w hw => hR w (List.mem_cons_of_mem _ hw)⟩

theorem allRel_forall_left {P : α → Prop} : ∀ {as : List α} {bs : List β}, AllRel R as bs →
    (∀ a ∈ as, ∀ b, R a b → P a) → ∀ a ∈ as, P a
  | [], [], _, _, a, ha => by simp at ha
  | x :: as, y :: bs, h, hp, a, ha => by
    rcases List.mem_cons.1 ha with rfl | ha
    · exact hp _ (by simp) y h.1
    · exact allRel_forall_left (as := as) (bs := bs) h.2 (fun a ha b hr => hp a (by simp [ha]) b hr) a ha
  | [], _ :: _, h, _, _, _ => by cases h
  | _ :: _, [], h, _, _, _ => by cases h

theorem allRel_map_eq (f : β → γ) (g : α → γ) : ∀ {as : List α} {bs : List β}, AllRel R as bs →
    (∀ a ∈ as, ∀ b, R a b → f b = g a) → bs.map f = as.map g
  | [], [], _, _ => rfl
  | x :: as, y :: bs, h, hp => by
    simp only [List.map_cons]
    rw [hp x (by simp) y h.1,
      allRel_map_eq f g (as := as) (bs := bs) h.2 (fun a ha b hr => hp a (by simp [ha]) b hr)]
  | [], _ :: _, h, _ => by cases h
  | _ :: _, [], h, _ => by cases h

end AllRel

end Rmk
