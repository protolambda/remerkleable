/-
Laws of the remaining read routes over lazily loaded (virtual) trees (property C20): the stack-machine
iterators (`NodeIter`, `PackedIter`, `BitfieldIter`), the tree-reading serialiser and `to_obj()` computed from
the tree, run over a mixed tree `m` whose source serves the materialised tree `n` (`Mat H src m n`), give
exactly the result (value or failure) of the same route over `n`.  The routes over `MNode`
(Rmk/Impl/VirtualIter.lean) mirror those over `Node` line by line.  No hypothesis on types or values; generic
in `H`.
-/
import Rmk.Impl.VirtualIter
import Rmk.Proofs.ListRel
import Rmk.Proofs.VirtualLaws
import Rmk.Proofs.VirtualViewLaws
namespace Rmk.VirtualIterLaws
open Rmk Rmk.Impl Rmk.Virtual Rmk.VirtualLaws Rmk.VirtualViewLaws

abbrev StackRel (H : Hash) (src : Src) : List (Option MNode) → List (Option Node) → Prop :=
  AllRel (OptRel (Mat H src))

section
variable {H : Hash} {src : Src}

theorem descendLeftM_rel (k : Nat) : ∀ (x : Nat) {m : MNode} {n : Node} {s : List (Option MNode)}
    {s' : List (Option Node)}, Mat H src m n → StackRel H src s s' →
    OptRel (fun a b => Mat H src a.1 b.1 ∧ StackRel H src a.2 b.2)
      (descendLeftM src k x m s) (descendLeft k x n s') := by
  induction k with
  | zero => intro x m n s s' hm hs; exact ⟨hm, hs⟩
  | succ k ih =>
    intro x m n s s' hm hs
    rcases optRel_cases (childM_left hm) with ⟨h1, h2⟩ | ⟨l, l', h1, h2, hl⟩
    · simp only [descendLeftM, descendLeft, h1, h2, OptRel]
    · simp only [descendLeftM, descendLeft, h1, h2]
      exact ih (x + 1) hl (allRel_set hs x (optRel_some hm))

/-- relates the results of one `NodeIter.__next__` over the mixed and over the materialised tree -/
def IterRel (H : Hash) (src : Src) (p : MNode × NodeIterStateM) (q : Node × NodeIterState) : Prop :=
  Mat H src p.1 q.1 ∧ p.2.i = q.2.i ∧ StackRel H src p.2.stack q.2.stack

theorem next_tail {startM : Option (MNode × Nat)} {start : Option (Node × Nat)} (depth i : Nat)
    {s : List (Option MNode)} {s' : List (Option Node)} (hs : StackRel H src s s') :
    OptRel (fun p q => Mat H src p.1 q.1 ∧ p.2 = q.2) startM start →
    OptRel (IterRel H src)
      (match startM with
        | none => none
        | some (node, stackIndex) =>
          match descendLeftM src (depth - stackIndex) stackIndex node s with
          | none => none
          | some (leaf, stack') => some (leaf, ({ i := i + 1, stack := stack' } : NodeIterStateM)))
      (match start with
        | none => none
        | some (node, stackIndex) =>
          match descendLeft (depth - stackIndex) stackIndex node s' with
          | none => none
          | some (leaf, stack') => some (leaf, ({ i := i + 1, stack := stack' } : NodeIterState))) := by
  intro hst
  rcases optRel_cases hst with ⟨h1, h2⟩ | ⟨⟨nd, x⟩, ⟨nd', x'⟩, h1, h2, hnd, hx⟩
  · subst h1 h2; exact trivial
  · simp only at hnd hx
    subst h1 h2 hx
    simp only []
    rcases optRel_cases (descendLeftM_rel (depth - x) x hnd hs) with
      ⟨k1, k2⟩ | ⟨⟨l, t⟩, ⟨l', t'⟩, k1, k2, hl, ht⟩
    · simp only [k1, k2, OptRel]
    · simp only [k1, k2, OptRel]
      exact ⟨hl, rfl, ht⟩

theorem nodeIterNextM_rel {a : MNode} {a' : Node} (ha : Mat H src a a') (depth i : Nat)
    {s : List (Option MNode)} {s' : List (Option Node)} (hs : StackRel H src s s') :
    OptRel (IterRel H src) (nodeIterNextM src a depth ⟨i, s⟩) (nodeIterNext a' depth ⟨i, s'⟩) := by
  dsimp only [nodeIterNextM, nodeIterNext]
  apply next_tail depth i hs
  refine optRel_ite ?_ ⟨ha, rfl⟩
  rcases optRel_cases (allRel_getD hs (depth - shiftCount (i ^^^ (i - 1))) optRel_none) with
    ⟨g1, g2⟩ | ⟨nd, nd', g1, g2, hnd⟩
  · rw [g1, g2]; exact trivial
  · rw [g1, g2]
    exact OptRel.map _ _ (childM_right hnd) fun _ _ hab => ⟨hab, rfl⟩

theorem nodeIterRunM_rel {a : MNode} {a' : Node} (ha : Mat H src a a') (depth k : Nat) :
    ∀ (i : Nat) {s : List (Option MNode)} {s' : List (Option Node)}, StackRel H src s s' →
    OptRel (AllRel (Mat H src)) (nodeIterRunM src a depth k ⟨i, s⟩) (nodeIterRun a' depth k ⟨i, s'⟩) := by
  induction k with
  | zero => intro i s s' _; exact trivial
  | succ k ih =>
    intro i s s' hs
    rcases optRel_cases (nodeIterNextM_rel ha depth i hs) with
      ⟨h1, h2⟩ | ⟨⟨m1, ⟨i1, s1⟩⟩, ⟨n1, ⟨i1', s1'⟩⟩, h1, h2, hm, hi, hst⟩
    · simp only [nodeIterRunM, nodeIterRun, h1, h2, OptRel]
    · simp only at hi hst hm
      subst hi
      simp only [nodeIterRunM, nodeIterRun, h1, h2]
      exact OptRel.map _ _ (ih i1 hst) fun _ _ hns => ⟨hm, hns⟩

/-- `NodeIter` yields nodes, not values: those of the mixed tree are `Mat`-related to, not equal to, those of
    the materialised one -/
theorem nodeIterM_rel {m : MNode} {n : Node} (h : Mat H src m n) (depth len : Nat) :
    OptRel (AllRel (Mat H src)) (nodeIterM src m depth len) (nodeIter n depth len) :=
  optRel_iteN (nodeIterRunM_rel h depth len 0 (allRel_replicate depth optRel_none))

def PRel (H : Hash) (src : Src) (st : PackedIterStateM) (st' : PackedIterState) : Prop :=
  st.i = st'.i ∧ st.j = st'.j ∧ st.rootIndex = st'.rootIndex ∧
  Mat H src st.currentRoot st'.currentRoot ∧ StackRel H src st.stack st'.stack

theorem packedIterNextM_rel {a : MNode} {a' : Node} (ha : Mat H src a a') (et : Ty) (depth perNode : Nat)
    {st : PackedIterStateM} {st' : PackedIterState} (hst : PRel H src st st') :
    OptRel (fun p q => p.1 = q.1 ∧ PRel H src p.2 q.2)
      (packedIterNextM H src et a depth perNode st) (packedIterNext H et a' depth perNode st') := by
  obtain ⟨i, j, ri, cr, s⟩ := st
  obtain ⟨i', j', ri', cr', s'⟩ := st'
  obtain ⟨h1, h2, h3, hcr, hs⟩ := hst
  simp only at h1 h2 h3 hcr hs
  subst h1 h2 h3
  dsimp only [packedIterNextM, packedIterNext]
  refine optRel_ite ?_ ?_
  · rw [readBasicAtM_mat hcr]
    cases readBasicAt H et cr' j with
    | none => exact trivial
    | some v => exact ⟨rfl, rfl, rfl, rfl, hcr, hs⟩
  · rcases optRel_cases (nodeIterNextM_rel ha depth ri hs) with
      ⟨k1, k2⟩ | ⟨⟨m1, w⟩, ⟨n1, w'⟩, k1, k2, hm, _, hw⟩
    · rw [k1, k2]; exact trivial
    · rw [k1, k2]
      simp only at hm hw ⊢
      rw [isLeafM_mat hm, readBasicAtM_mat hm]
      refine optRel_iteN ?_
      cases readBasicAt H et n1 0 with
      | none => exact trivial
      | some v => exact ⟨rfl, rfl, rfl, rfl, hm, hw⟩

theorem packedIterRunM_mat {a : MNode} {a' : Node} (ha : Mat H src a a') (et : Ty)
    (depth perNode length fuel : Nat) :
    ∀ {st : PackedIterStateM} {st' : PackedIterState}, PRel H src st st' →
    packedIterRunM H src et a depth perNode length fuel st =
      packedIterRun H et a' depth perNode length fuel st' := by
  induction fuel with
  | zero => intro st st' _; rfl
  | succ fuel ih =>
    intro st st' hst
    dsimp only [packedIterRunM, packedIterRun]
    rw [hst.1]
    split
    · rfl
    · rcases optRel_cases (packedIterNextM_rel ha et depth perNode hst) with
        ⟨k1, k2⟩ | ⟨⟨v, t⟩, ⟨v', t'⟩, k1, k2, hv, ht⟩
      · rw [k1, k2]
      · rw [k1, k2]
        simp only at hv ht ⊢
        rw [hv, ih ht]

theorem packedIterM_mat {m : MNode} {n : Node} (h : Mat H src m n) (et : Ty) (depth len : Nat) :
    packedIterM H src et m depth len = packedIter H et n depth len := by
  dsimp only [packedIterM, packedIter]
  split
  · rfl
  · split
    · rfl
    · exact packedIterRunM_mat h et depth _ len len
        ⟨rfl, rfl, rfl, (show Mat H src (.leaf zeroChunk) (.leaf zeroChunk) from rfl),
          allRel_replicate depth optRel_none⟩

def BRel (H : Hash) (src : Src) (st : BitfieldIterStateM) (st' : BitfieldIterState) : Prop :=
  st.i = st'.i ∧ st.j = st'.j ∧ st.rootIndex = st'.rootIndex ∧
  st.currentRoot = st'.currentRoot ∧ StackRel H src st.stack st'.stack

theorem bitfieldIterNextM_rel {a : MNode} {a' : Node} (ha : Mat H src a a') (depth : Nat)
    {st : BitfieldIterStateM} {st' : BitfieldIterState} (hst : BRel H src st st') :
    OptRel (fun p q => p.1 = q.1 ∧ BRel H src p.2 q.2)
      (bitfieldIterNextM H src a depth st) (bitfieldIterNext H a' depth st') := by
  obtain ⟨i, j, ri, cr, s⟩ := st
  obtain ⟨i', j', ri', cr', s'⟩ := st'
  obtain ⟨h1, h2, h3, hcr, hs⟩ := hst
  simp only at h1 h2 h3 hcr hs
  subst h1 h2 h3 hcr
  dsimp only [bitfieldIterNextM, bitfieldIterNext]
  refine optRel_ite ⟨rfl, rfl, rfl, rfl, rfl, hs⟩ ?_
  rcases optRel_cases (nodeIterNextM_rel ha depth ri hs) with
    ⟨k1, k2⟩ | ⟨⟨m1, w⟩, ⟨n1, w'⟩, k1, k2, hm, _, hw⟩
  · rw [k1, k2]; exact trivial
  · rw [k1, k2]
    simp only at hm hw ⊢
    rw [isLeafM_mat hm, mat_root hm]
    exact optRel_iteN ⟨rfl, rfl, rfl, rfl, rfl, hw⟩

theorem bitfieldIterRunM_mat {a : MNode} {a' : Node} (ha : Mat H src a a')
    (depth length fuel : Nat) :
    ∀ {st : BitfieldIterStateM} {st' : BitfieldIterState}, BRel H src st st' →
    bitfieldIterRunM H src a depth length fuel st = bitfieldIterRun H a' depth length fuel st' := by
  induction fuel with
  | zero => intro st st' _; rfl
  | succ fuel ih =>
    intro st st' hst
    dsimp only [bitfieldIterRunM, bitfieldIterRun]
    rw [hst.1]
    split
    · rfl
    · rcases optRel_cases (bitfieldIterNextM_rel ha depth hst) with
        ⟨k1, k2⟩ | ⟨⟨v, t⟩, ⟨v', t'⟩, k1, k2, hv, ht⟩
      · rw [k1, k2]
      · rw [k1, k2]
        simp only at hv ht ⊢
        rw [hv, ih ht]

theorem bitfieldIterM_mat {m : MNode} {n : Node} (h : Mat H src m n) (depth len : Nat) :
    bitfieldIterM H src m depth len = bitfieldIter H n depth len := by
  dsimp only [bitfieldIterM, bitfieldIter]
  split
  · rfl
  · exact bitfieldIterRunM_mat h depth len len ⟨rfl, rfl, rfl, rfl, allRel_replicate depth optRel_none⟩

theorem serBitsRawM_mat {m : MNode} {n : Node} (h : Mat H src m n) (depth bitlen : Nat) :
    serBitsRawM H src m depth bitlen = serBitsRaw H n depth bitlen := by
  dsimp only [serBitsRawM, serBitsRaw]
  rw [readChunksM_mat h]
  cases readChunks H n depth ((bitlen + 255) / 256 - 1) with
  | none => rfl
  | some pre =>
    simp only []
    split
    · exact optRel_map_eq (getAtM_rel h _ depth) fun _ _ hab => by rw [mat_root hab]
    · rfl

theorem serSeqWithM_mat {m : MNode} {n : Node} (h : Mat H src m n)
    {serM : MNode → Option (List UInt8 × Nat)} {ser : Node → Option (List UInt8 × Nat)}
    (hser : ∀ a b, Mat H src a b → serM a = ser b) (et : Ty) (depth len : Nat) :
    serSeqWithM H src serM et m depth len = serSeqWith H ser et n depth len := by
  have hb (per : Nat) (F : Val → List UInt8) (i : Nat) :
      ((getAtM src m (i / per) depth).bind fun c => (readBasicAtM H et c (i % per)).map F) =
      ((getAt n (i / per) depth).bind fun c => (readBasicAt H et c (i % per)).map F) :=
    getAtM_bind_eq h (fun _ _ hab => by rw [readBasicAtM_mat hab]) _ _
  simp only [serSeqWithM, serSeqWith, hb, elemsM_mat h hser]
  rfl

end

mutual
theorem serTreeM_mat (H : Hash) (src : Src) (t : Ty) (m : MNode) (n : Node) (h : Mat H src m n) :
    serTreeM H src t m = serTree H t n := by
  cases t with
  | uint nb => dsimp only [serTreeM, serTree]; rw [readBasicAtM_mat h]; rfl
  | bool => dsimp only [serTreeM, serTree]; rw [readBasicAtM_mat h]; rfl
  | bitvector len => dsimp only [serTreeM, serTree]; rw [serBitsRawM_mat h]
  | bitlist lim =>
    dsimp only [serTreeM, serTree]
    simp only [listLengthM_mat h, serBitsRawM_mat h]
    rfl
  | bytevector len => dsimp only [serTreeM, serTree]; rw [readValM_mat H src _ m n h]; rfl
  | bytelist lim => dsimp only [serTreeM, serTree]; rw [readValM_mat H src _ m n h]; rfl
  | vector et len =>
    exact serSeqWithM_mat h (fun a b hab => serTreeM_mat H src et a b hab) et _ len
  | list et lim =>
    dsimp only [serTreeM, serTree]
    rw [listLengthM_mat h]
    cases listLength H n with
    | none => rfl
    | some len =>
      exact serSeqWithM_mat h (fun a b hab => serTreeM_mat H src et a b hab) et _ len
  | container fs =>
    dsimp only [serTreeM, serTree]
    rw [serFieldsM_mat H src fs m n h]
  | union hasNone opts =>
    dsimp only [serTreeM, serTree]
    rcases children_rel h with ⟨h1, h2, h3, h4⟩ | ⟨c, c', s, s', h1, h2, h3, h4, hc, hs⟩
    · simp only [h1, h2, h3, h4]
    · simp only [h1, h2, h3, h4, readLenM_mat hs, mat_root hc, serOptM_mat H src opts _ c c' hc]
theorem serFieldsM_mat (H : Hash) (src : Src) (ts : List Ty) (m : MNode) (n : Node)
    (h : Mat H src m n) (depth i : Nat) :
    serFieldsM H src ts m depth i = serFields H ts n depth i := by
  cases ts with
  | nil => rfl
  | cons t ts =>
    dsimp only [serFieldsM, serFields]
    rw [serFieldsM_mat H src ts m n h depth (i + 1),
      getAtM_bind_eq h (fun a b hab => serTreeM_mat H src t a b hab) i depth]
    rfl
theorem serOptM_mat (H : Hash) (src : Src) (ts : List Ty) (k : Nat) (m : MNode) (n : Node)
    (h : Mat H src m n) :
    serOptM H src ts k m = serOpt H ts k n := by
  cases ts with
  | nil => rfl
  | cons t ts =>
    cases k with
    | zero => exact serTreeM_mat H src t m n h
    | succ k => exact serOptM_mat H src ts k m n h
end

mutual
theorem toObjTreeM_mat (H : Hash) (src : Src) (t : Ty) (m : MNode) (n : Node) (h : Mat H src m n) :
    toObjTreeM H src t m = toObjTree H t n := by
  cases t with
  | uint nb => dsimp only [toObjTreeM, toObjTree]; rw [readBasicAtM_mat h]
  | bool => dsimp only [toObjTreeM, toObjTree]; rw [readBasicAtM_mat h]
  | bitvector k => dsimp only [toObjTreeM, toObjTree]; rw [serTreeM_mat H src _ m n h]
  | bitlist k => dsimp only [toObjTreeM, toObjTree]; rw [serTreeM_mat H src _ m n h]
  | bytevector k => dsimp only [toObjTreeM, toObjTree]; rw [serTreeM_mat H src _ m n h]
  | bytelist k => dsimp only [toObjTreeM, toObjTree]; rw [serTreeM_mat H src _ m n h]
  | vector et len =>
    dsimp only [toObjTreeM, toObjTree]
    rw [packedIterM_mat h]
    rcases optRel_cases (nodeIterM_rel h (getDepth (chunkLen et len)) len) with
      ⟨k1, k2⟩ | ⟨ns, ns', k1, k2, hns⟩
    · rw [k1, k2]
    · simp only [k1, k2, (allRel_map_eq _ _ hns fun a _ b hab => (toObjTreeM_mat H src et a b hab).symm).symm]
  | list et lim =>
    dsimp only [toObjTreeM, toObjTree]
    simp only [listLengthM_mat h, packedIterM_mat h]
    cases listLength H n with
    | none => rfl
    | some len =>
      rcases optRel_cases (nodeIterM_rel h (getDepth (chunkLen et lim) + 1) len) with
        ⟨k1, k2⟩ | ⟨ns, ns', k1, k2, hns⟩
      · simp only [k1, k2]
      · simp only [k1, k2, (allRel_map_eq _ _ hns fun a _ b hab => (toObjTreeM_mat H src et a b hab).symm).symm]
  | container fs =>
    dsimp only [toObjTreeM, toObjTree]
    rcases optRel_cases (nodeIterM_rel h (getDepth fs.length) fs.length) with
      ⟨k1, k2⟩ | ⟨ns, ns', k1, k2, hns⟩
    · rw [k1, k2]
    · rw [k1, k2]
      simp only [toObjTreeFieldsM_mat H src fs 0 ns ns' hns]
  | union hasNone opts =>
    dsimp only [toObjTreeM, toObjTree]
    rcases children_rel h with ⟨h1, h2, h3, h4⟩ | ⟨c, c', s, s', h1, h2, h3, h4, hc, hs⟩
    · simp only [h1, h2, h3, h4]
    · simp only [h1, h2, h3, h4, readLenM_mat hs, mat_root hc,
        toObjTreeOptM_mat H src opts _ c c' hc]
theorem toObjTreeFieldsM_mat (H : Hash) (src : Src) (ts : List Ty) (i : Nat) (cs : List MNode)
    (cs' : List Node) (h : AllRel (Mat H src) cs cs') :
    toObjTreeFieldsM H src ts i cs = toObjTreeFields H ts i cs' := by
  cases ts with
  | nil => rfl
  | cons t ts =>
    cases cs with
    | nil =>
      cases cs' with
      | nil => rfl
      | cons c' cs' => exact h.elim
    | cons c cs =>
      cases cs' with
      | nil => exact h.elim
      | cons c' cs' =>
        dsimp only [toObjTreeFieldsM, toObjTreeFields]
        rw [toObjTreeM_mat H src t c c' h.1, toObjTreeFieldsM_mat H src ts (i + 1) cs cs' h.2]
        rfl
theorem toObjTreeOptM_mat (H : Hash) (src : Src) (ts : List Ty) (k : Nat) (m : MNode) (n : Node)
    (h : Mat H src m n) :
    toObjTreeOptM H src ts k m = toObjTreeOpt H ts k n := by
  cases ts with
  | nil => rfl
  | cons t ts =>
    cases k with
    | zero => exact toObjTreeM_mat H src t m n h
    | succ k => exact toObjTreeOptM_mat H src ts k m n h
end

/-- `serialize` and `to_obj` over the wholly virtual node `VirtualNode(n.root, src)`, whose source serves the
    tree `n`, give exactly the result (value or failure) they give over `n` -/
theorem virtual_ser_obj {H : Hash} {src : Src} {n : Node} (t : Ty) (hs : Serves H src n) :
    serTreeM H src t (.virt (n.root H)) = serTree H t n ∧
    toObjTreeM H src t (.virt (n.root H)) = toObjTree H t n :=
  ⟨serTreeM_mat H src t _ n (mat_virt hs), toObjTreeM_mat H src t _ n (mat_virt hs)⟩

/-- the same for the iterators (`NodeIter` yields virtual nodes, hence a relation) -/
theorem virtual_iters {H : Hash} {src : Src} {n : Node} (hs : Serves H src n) (depth len : Nat) :
    OptRel (AllRel (Mat H src)) (nodeIterM src (.virt (n.root H)) depth len) (nodeIter n depth len) ∧
    (∀ et, packedIterM H src et (.virt (n.root H)) depth len = packedIter H et n depth len) ∧
    bitfieldIterM H src (.virt (n.root H)) depth len = bitfieldIter H n depth len :=
  ⟨nodeIterM_rel (mat_virt hs) depth len, fun et => packedIterM_mat (mat_virt hs) et depth len,
    bitfieldIterM_mat (mat_virt hs) depth len⟩

/-- the roots of the nodes `NodeIter` yields coincide (what an observer of the virtual iterator sees) -/
theorem nodeIterM_roots {H : Hash} {src : Src} {m : MNode} {n : Node} (h : Mat H src m n)
    (depth len : Nat) :
    (nodeIterM src m depth len).map (·.map (·.root H)) = (nodeIter n depth len).map (·.map (·.root H)) :=
  optRel_map_eq (nodeIterM_rel h depth len) fun _ _ hns => (allRel_map_eq _ _ hns fun _ _ _ hab => (mat_root hab).symm).symm

/-- and for a wholly materialised backing (an ordinary tree seen as a mixed tree, whatever the source) -/
theorem ofNode_ser_obj (H : Hash) (src : Src) (n : Node) (t : Ty) :
    serTreeM H src t (MNode.ofNode n) = serTree H t n ∧
    toObjTreeM H src t (MNode.ofNode n) = toObjTree H t n :=
  ⟨serTreeM_mat H src t _ n (mat_ofNode H src n), toObjTreeM_mat H src t _ n (mat_ofNode H src n)⟩

/-- a toy hash without collisions on the trees below -/
private def H1 : Hash := fun a b => 255 :: (a ++ b)
private def tL : Ty := .list (.uint 1) 64
/-- `Container{a: uint8, b: List[uint8, 64]}` -/
private def tC : Ty := .container [.uint 1, tL]
/-- the list holds 7, 8, 9 (contents of depth 1, length mix-in 3) -/
private def nL : Node := .pair (.pair (.leaf [7, 8, 9]) (.leaf [])) (.leaf [3])
private def nC : Node := .pair (.leaf [5]) nL
private def srcC : Src := srcOfDict (dictOf H1 nC)

example : Serves H1 srcC nC ∧ Serves H1 srcC nL := by decide +kernel
example : serTreeM H1 srcC tC (.virt (nC.root H1)) = some ([5, 5, 0, 0, 0, 7, 8, 9], 8) ∧
    serTree H1 tC nC = some ([5, 5, 0, 0, 0, 7, 8, 9], 8) ∧
    serTreeM H1 srcC tC (.pair (.leaf [5]) (.virt (nL.root H1))) = some ([5, 5, 0, 0, 0, 7, 8, 9], 8) := by
  decide +kernel
example : toObjTreeM H1 srcC tC (.virt (nC.root H1)) = toObjTree H1 tC nC ∧
    (toObjTreeM H1 srcC tC (.virt (nC.root H1))).isSome = true := ⟨by rfl, by rfl⟩
example : nodeIterM srcC (.virt (nC.root H1)) 1 2 = some [.virt [5], .virt (nL.root H1)] ∧
    nodeIter nC 1 2 = some [.leaf [5], nL] := by decide +kernel
example : packedIterM H1 srcC (.uint 1) (.virt (nL.root H1)) 2 3 = some [.num 7, .num 8, .num 9] := by rfl
example : bitfieldIterM H1 srcC (.virt (nL.root H1)) 2 3 = some [true, true, true] ∧
    bitfieldIter H1 nL 2 3 = some [true, true, true] := by decide +kernel
-- failures coincide: a bottom node that is a pair (asked of the SOURCE for a virtual node) is refused
example : packedIterM H1 srcC (.uint 1) (.virt (nC.root H1)) 0 2 = none ∧
    packedIter H1 (.uint 1) nC 0 2 = none := ⟨by rfl, by rfl⟩
-- a virtual leaf iterated one level down raises like the materialised leaf
example : nodeIterM srcC (.virt [5]) 1 2 = none ∧ nodeIter (.leaf [5]) 1 2 = none := by decide +kernel

end Rmk.VirtualIterLaws
