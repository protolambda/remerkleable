/-
The stack-machine iterators `PackedIter` and `BitfieldIter` (Rmk/Impl/Iters.lean) agree with reading
by index (`SubtreeView.get` / `BitsView.get`), for every depth, length and element size; together
with `NodeIter` (Rmk/Proofs/NodeIter.lean) all read paths of a `Repr` tree agree (property C15).
Generic in the pair hash `H`.

Both iterators are instances of one statement about a stepping iterator (`run_eq_allSome`): if one
`__next__` from an invariant state delivers exactly the element read by index (or fails where that
read fails), the whole run is the index loop.
-/
import Rmk.Impl.Iters
import Rmk.Proofs.ChunkTree
import Rmk.Proofs.ListRel
import Rmk.Proofs.NodeIter
import Rmk.Proofs.PackArith
import Rmk.Proofs.Packing
import Rmk.Proofs.ReprBasics
namespace Rmk.ItersLaws
open Rmk Rmk.Impl Rmk.Spec
open Rmk.ChunkTreeLemmas Rmk.ReprBasics

theorem range_map_getElem {β} (l : List β) (f : Nat → β) (h : ∀ i (hi : i < l.length), f i = l[i]) :
    (List.range l.length).map f = l := by
  apply List.ext_getElem
  · simp
  · intro i h1 h2
    simp only [List.getElem_map, List.getElem_range]
    exact h i h2

theorem getD_of_lt {α} (l : List α) (d : α) (i : Nat) (hi : i < l.length) : l.getD i d = l[i] := by
  simp [List.getD, List.getElem?_eq_getElem hi]

/-- the shift/mask bit extraction of `BitfieldIter` is the div/mod one of `BitsView.get` -/
theorem bitfieldIterBit_eq (c : Chunk) (i j : Nat) (hi : i % 256 = j) :
    bitfieldIterBit c j = bitOfChunk c i := by
  unfold bitfieldIterBit bitOfChunk
  have h7 : j &&& 7 = j % 8 := Nat.and_two_pow_sub_one_eq_mod j 3
  have e8 : i % 8 = j % 8 := by omega
  simp only [Nat.shiftRight_eq_div_pow, h7, Nat.and_one_is_mod, hi, e8]

/-- the first bit of a freshly fetched chunk (`currentRoot[0] & 1`) -/
theorem firstBit_eq (c : Chunk) (i : Nat) (hi : i % 256 = 0) :
    (((c.getD 0 0).toNat &&& 1) == 1) = bitOfChunk c i := by
  unfold bitOfChunk
  have e8 : i % 8 = 0 := by omega
  simp only [Nat.and_one_is_mod, hi, e8, Nat.zero_div, Nat.pow_zero, Nat.div_one]

section Stepping
variable {σ β : Type} (step : σ → Option (β × σ)) (idx : σ → Nat) (length : Nat)

/-- the recursion equations of `packedIterRun` and `bitfieldIterRun`: stop at `length`, otherwise one
    `__next__` and go on -/
def IsRun (run : Nat → σ → Option (List β)) : Prop :=
  (∀ st, run 0 st = some []) ∧
  ∀ k st, run (k + 1) st =
    if idx st ≥ length then some []
    else match step st with
      | none => none
      | some (v, st') => (run k st').map (v :: ·)

theorem sub_step {n i k : Nat} (h : i < n) (hf : n - i ≤ k + 1) :
    n - i = (n - (i + 1)) + 1 ∧ n - (i + 1) ≤ k := by
  omega

variable {step idx length}

/-- If from every state satisfying `Inv` a step delivers `g (idx st)` (failing where `g` does),
    advances the index by one and keeps `Inv`, then the run from such a state is the index loop over
    `g` for the remaining indices.  Any `fuel ≥ length - idx st` will do. -/
theorem run_eq_allSome {run : Nat → σ → Option (List β)} (hrun : IsRun step idx length run)
    (Inv : σ → Prop) (g : Nat → Option β)
    (hstep : ∀ st, Inv st → idx st < length →
      (∀ v, g (idx st) = some v → ∃ st', step st = some (v, st') ∧ idx st' = idx st + 1 ∧ Inv st') ∧
      (g (idx st) = none → step st = none)) :
    ∀ fuel st, Inv st → length - idx st ≤ fuel →
      run fuel st = allSome ((List.range' (idx st) (length - idx st)).map g) := by
  intro fuel
  induction fuel with
  | zero =>
    intro st _ hf
    rw [hrun.1, Nat.le_zero.1 hf]
    rfl
  | succ k ih =>
    intro st hinv hf
    rw [hrun.2]
    by_cases hstop : idx st ≥ length
    · rw [if_pos hstop, Nat.sub_eq_zero_of_le hstop]
      rfl
    · rw [if_neg hstop]
      have hlt := Nat.lt_of_not_le hstop
      obtain ⟨hsome, hnone⟩ := hstep st hinv hlt
      obtain ⟨hm, hk⟩ := sub_step hlt hf
      rw [hm, List.range'_succ, List.map_cons]
      cases hg : g (idx st) with
      | none =>
        rw [hnone hg]
        rfl
      | some v =>
        obtain ⟨st', h1, h2, h3⟩ := hsome v hg
        rw [← h2] at hk ⊢
        rw [h1, allSome, ← ih st' h3 hk]

theorem run_fuel {run : Nat → σ → Option (List β)} (hrun : IsRun step idx length run)
    (hidx : ∀ st v st', step st = some (v, st') → idx st' = idx st + 1) :
    ∀ fuel st, length - idx st ≤ fuel → run fuel st = run (length - idx st) st := by
  intro fuel
  induction fuel with
  | zero =>
    intro st hf
    rw [Nat.le_zero.1 hf]
  | succ k ih =>
    intro st hf
    by_cases hstop : idx st ≥ length
    · rw [Nat.sub_eq_zero_of_le hstop, hrun.1, hrun.2, if_pos hstop]
    · obtain ⟨hm, hk⟩ := sub_step (Nat.lt_of_not_le hstop) hf
      rw [hm, hrun.2, hrun.2, if_neg hstop, if_neg hstop]
      cases hn : step st with
      | none => rfl
      | some r =>
        obtain ⟨v, st'⟩ := r
        rw [← hidx st v st' hn] at hk ⊢
        simp only
        rw [ih st' hk]

end Stepping

/-- At a chunk boundary both iterators fetch chunk `s.i` with `NodeIter`, insist on a leaf and decode
    it (`dec`); `mk` builds the iterator's next state from the chunk and the `NodeIter` stack.  The
    step delivers what decoding `getAt anchor s.i depth` delivers, and the next state satisfies
    whatever holds of every `mk n w` with `n` that leaf and `w` the advanced `NodeIter` stack. -/
theorem fetch_step {β σ : Type} (anchor : Node) (depth : Nat) (s : NodeIterState)
    (hni : NodeIterInv anchor depth s) (hlt : s.i < 2 ^ depth) (dec : Node → Option β)
    (mk : Node → List (Option Node) → σ) (P : σ → Prop)
    (hP : ∀ n w, getAt anchor s.i depth = some n → n.isLeaf = true →
      NodeIterInv anchor depth ⟨s.i + 1, w⟩ → P (mk n w)) :
    (∀ v, ((getAt anchor s.i depth).bind fun c => if c.isLeaf then dec c else none) = some v →
      ∃ st', ((nodeIterNext anchor depth s).bind fun r =>
        if r.1.isLeaf then (dec r.1).map fun v => (v, mk r.1 r.2.stack) else none) = some (v, st') ∧
        P st') ∧
    (((getAt anchor s.i depth).bind fun c => if c.isLeaf then dec c else none) = none →
      ((nodeIterNext anchor depth s).bind fun r =>
        if r.1.isLeaf then (dec r.1).map fun v => (v, mk r.1 r.2.stack) else none) = none) := by
  obtain ⟨hfst, hadv⟩ := nodeIterNext_getAt anchor depth s hni hlt
  rw [← hfst]
  cases hnx : nodeIterNext anchor depth s with
  | none => exact ⟨fun v hd => (nomatch hd), fun _ => rfl⟩
  | some r =>
    obtain ⟨n, wi, w⟩ := r
    obtain ⟨hwi, hwinv⟩ := hadv n ⟨wi, w⟩ hnx
    simp only at hwi
    subst hwi
    simp only [Option.map_some, Option.bind_some]
    cases hl : n.isLeaf with
    | false => exact ⟨fun v hd => (nomatch hd), fun _ => rfl⟩
    | true =>
      rw [if_pos rfl]
      have hn : getAt anchor s.i depth = some n := by rw [← hfst, hnx]; rfl
      refine ⟨fun v hd => ⟨mk n w, ?_, hP n w hn hl hwinv⟩, fun hd => ?_⟩
      · rw [hd]; rfl
      · rw [hd]; rfl

theorem packedIterNext_inside {H : Hash} {et : Ty} {anchor : Node} {depth per : Nat}
    {st : PackedIterState} (h : st.j < per) :
    packedIterNext H et anchor depth per st = (readBasicAt H et st.currentRoot st.j).map fun e =>
      (e, { st with j := st.j + 1, i := st.i + 1 }) := by
  rw [packedIterNext, if_pos h]
  cases readBasicAt H et st.currentRoot st.j <;> rfl

theorem packedIterNext_fetch {H : Hash} {et : Ty} {anchor : Node} {depth per : Nat}
    {st : PackedIterState} (h : ¬ st.j < per) :
    packedIterNext H et anchor depth per st =
      (nodeIterNext anchor depth ⟨st.rootIndex, st.stack⟩).bind fun r =>
        if r.1.isLeaf then (readBasicAt H et r.1 0).map fun el =>
          (el, ⟨st.i + 1, 1, st.rootIndex + 1, r.1, r.2.stack⟩) else none := by
  rw [packedIterNext, if_neg h]
  cases nodeIterNext anchor depth ⟨st.rootIndex, st.stack⟩ with
  | none => rfl
  | some r =>
    obtain ⟨node, walk⟩ := r
    cases hl : node.isLeaf
    · simp [hl]
    · simp only [hl, Bool.not_true, Bool.false_eq_true, if_false, Option.bind_some, if_true]
      cases readBasicAt H et node 0 <;> rfl


theorem packed_isRun (H : Hash) (et : Ty) (anchor : Node) (depth per length : Nat) :
    IsRun (packedIterNext H et anchor depth per) (·.i) length
      (packedIterRun H et anchor depth per length) :=
  ⟨fun _ => rfl, fun k st => by
    rw [packedIterRun]
    split
    · rfl
    · cases packedIterNext H et anchor depth per st <;> rfl⟩

/-- element `i` as `PackedIter` delivers it: chunk `i / per` has to be a reachable leaf, slot
    `i % per` has to decode -/
def packedAt (H : Hash) (et : Ty) (anchor : Node) (depth per i : Nat) : Option Val :=
  (getAt anchor (i / per) depth).bind fun c =>
    if c.isLeaf then readBasicAt H et c (i % per) else none

theorem packedAt_eq_some_iff {H : Hash} {et : Ty} {anchor : Node} {depth per i : Nat} {v : Val} :
    packedAt H et anchor depth per i = some v ↔
      ∃ n, getAt anchor (i / per) depth = some n ∧ n.isLeaf = true ∧
        readBasicAt H et n (i % per) = some v := by
  simp [packedAt, Option.bind_eq_some_iff]

/-- Invariant of `PackedIter` between two `__next__` calls.  The stack/`rootIndex` pair is a `NodeIter`
    state, `rootIndex` chunks have been fetched and `j` slots of the last one consumed (`j = per_node`
    at the start, with nothing fetched); while `j < per_node` the remembered `currentRoot` is chunk
    `rootIndex - 1`. -/
def PackedInv (anchor : Node) (depth per : Nat) (st : PackedIterState) : Prop :=
  NodeIterInv anchor depth { i := st.rootIndex, stack := st.stack } ∧
  0 < st.j ∧ st.j ≤ per ∧ st.i + per = st.rootIndex * per + st.j ∧
  (st.j < per → ∃ q, st.rootIndex = q + 1 ∧
    getAt anchor q depth = some st.currentRoot ∧ st.currentRoot.isLeaf = true)

theorem packedInv_init (anchor : Node) (depth per : Nat) (hper : 0 < per) (c : Node) :
    PackedInv anchor depth per
      { i := 0, j := per, rootIndex := 0, currentRoot := c, stack := List.replicate depth none } :=
  ⟨nodeIterInv_init anchor depth, hper, Nat.le_refl _, by simp, fun h => absurd h (Nat.lt_irrefl _)⟩

/-- One `__next__` from an invariant state reads element `i` by index. -/
theorem packedIterNext_step (H : Hash) (et : Ty) (anchor : Node) (depth per : Nat)
    (st : PackedIterState) (hinv : PackedInv anchor depth per st) (hlt : st.i < 2 ^ depth * per) :
    (∀ v, packedAt H et anchor depth per st.i = some v →
      ∃ st', packedIterNext H et anchor depth per st = some (v, st') ∧ st'.i = st.i + 1 ∧
        PackedInv anchor depth per st') ∧
    (packedAt H et anchor depth per st.i = none → packedIterNext H et anchor depth per st = none) := by
  obtain ⟨i, j, rootIndex, cur, stack⟩ := st
  obtain ⟨hni, hj0, hjle, hi, hcur⟩ := hinv
  simp only at hni hj0 hjle hi hcur hlt ⊢
  by_cases hjp : j < per
  · -- strictly inside chunk `q = i / per`, slot `j = i % per`
    obtain ⟨q, hr, hq, hcl⟩ := hcur hjp
    have hi' : i = q * per + j := by
      rw [hr, Nat.succ_mul] at hi
      omega
    obtain ⟨hdiv, hmod⟩ := div_mod_of per q j hjp
    have hg : packedAt H et anchor depth per i = readBasicAt H et cur j := by
      rw [packedAt, hi', hdiv, hmod, hq, Option.bind_some, if_pos hcl]
    rw [hg, packedIterNext_inside hjp]
    refine ⟨fun v hd => ⟨⟨i + 1, j + 1, rootIndex, cur, stack⟩, by rw [hd]; rfl, rfl, hni,
      Nat.succ_pos j, hjp, ?_, fun _ => ⟨q, hr, hq, hcl⟩⟩, fun hd => by rw [hd]; rfl⟩
    simp only
    omega
  · -- a new chunk is needed: chunk number `rootIndex = i / per`, slot `0 = i % per`
    have hj : j = per := Nat.le_antisymm hjle (Nat.le_of_not_lt hjp)
    have hi' : i = rootIndex * per := by omega
    have hper : 0 < per := hj ▸ hj0
    have hg : packedAt H et anchor depth per i = (getAt anchor rootIndex depth).bind fun c =>
        if c.isLeaf then readBasicAt H et c 0 else none := by
      rw [packedAt, hi', Nat.mul_div_cancel _ hper, Nat.mul_mod_left]
    rw [hg, packedIterNext_fetch hjp]
    exact fetch_step anchor depth ⟨rootIndex, stack⟩ hni (Nat.lt_of_mul_lt_mul_right (hi' ▸ hlt))
      (readBasicAt H et · 0) (fun n w => ⟨i + 1, 1, rootIndex + 1, n, w⟩)
      (fun st' => st'.i = i + 1 ∧ PackedInv anchor depth per st')
      fun n w hn hl hw => show _ ∧ PackedInv anchor depth per ⟨i + 1, 1, rootIndex + 1, n, w⟩ from
        ⟨rfl, hw, Nat.one_pos, hper, by simp only [Nat.succ_mul]; omega,
          fun _ => ⟨rootIndex, rfl, hn, hl⟩⟩

theorem packedIter_size_zero (H : Hash) (et : Ty) (anchor : Node) (depth length : Nat)
    (h : et.basicSize = 0) : packedIter H et anchor depth length = none := by
  rw [packedIter, if_pos h]

theorem packedIter_too_long (H : Hash) (et : Ty) (anchor : Node) (depth length : Nat)
    (h : 2 ^ depth * (32 / et.basicSize) < length) : packedIter H et anchor depth length = none := by
  unfold packedIter
  split
  · rfl
  · exact if_pos h

/-- `PackedIter` is the index loop, for every depth, length and element size: it yields
    `packedAt 0, …, packedAt (length-1)` and raises as soon as one of these reads fails. -/
theorem packedIter_eq (H : Hash) (et : Ty) (anchor : Node) (depth length : Nat)
    (hsz : et.basicSize ≠ 0) (hlen : length ≤ 2 ^ depth * (32 / et.basicSize)) :
    packedIter H et anchor depth length =
      allSome ((List.range length).map (packedAt H et anchor depth (32 / et.basicSize))) := by
  rw [packedIter, if_neg hsz]
  simp only
  rw [if_neg (Nat.not_lt.2 hlen)]
  cases length with
  | zero => rfl
  | succ m =>
    have hper : 0 < 32 / et.basicSize :=
      Nat.pos_of_ne_zero fun h0 => by rw [h0, Nat.mul_zero] at hlen; cases hlen
    rw [run_eq_allSome (packed_isRun H et anchor depth _ (m + 1)) (PackedInv anchor depth _) _
      (fun st hinv hlt => packedIterNext_step H et anchor depth _ st hinv (Nat.lt_of_lt_of_le hlt hlen))
      (m + 1) _ (packedInv_init anchor depth _ hper _) (Nat.le_of_eq (Nat.sub_zero _)),
      List.range_eq_range']
    rfl

/-- the `fuel` argument of the run is immaterial once it covers the remaining elements -/
theorem packedIterRun_fuel (H : Hash) (et : Ty) (anchor : Node) (depth per length : Nat)
    (fuel : Nat) (st : PackedIterState) (hfuel : length - st.i ≤ fuel) :
    packedIterRun H et anchor depth per length fuel st
      = packedIterRun H et anchor depth per length (length - st.i) st := by
  refine run_fuel (packed_isRun H et anchor depth per length) (fun s v s' h => ?_) fuel st hfuel
  by_cases hj : s.j < per
  · rw [packedIterNext_inside hj, Option.map_eq_some_iff] at h
    obtain ⟨e, -, he⟩ := h
    cases he
    rfl
  · rw [packedIterNext_fetch hj, Option.bind_eq_some_iff] at h
    obtain ⟨r, -, h⟩ := h
    split at h
    · rw [Option.map_eq_some_iff] at h
      obtain ⟨e, -, he⟩ := h
      cases he
      rfl
    · cases h

/-- If every chunk `c < ⌈length / per⌉` is reachable by gindex and is a leaf, and every element decodes
    (`f i` is the result of `SubtreeView.get(i)`: chunk `i / per`, slot `i % per`), then the iterator
    yields `f 0, …, f (length-1)`. -/
theorem packedIter_eq_index (H : Hash) (et : Ty) (anchor : Node) (depth length : Nat)
    (f : Nat → Val) (hsz : 0 < et.basicSize) (hsz32 : et.basicSize ≤ 32)
    (hlen : length ≤ 2 ^ depth * (32 / et.basicSize))
    (hleaf : ∀ c, c * (32 / et.basicSize) < length →
      ∃ n, getAt anchor c depth = some n ∧ n.isLeaf = true)
    (hdec : ∀ i, i < length →
      ((getAt anchor (i / (32 / et.basicSize)) depth).bind
        fun c => readBasicAt H et c (i % (32 / et.basicSize))) = some (f i)) :
    packedIter H et anchor depth length = some ((List.range length).map f) := by
  rw [packedIter_eq H et anchor depth length (Nat.ne_of_gt hsz) hlen]
  refine allSome_map_some _ _ f fun i hi => ?_
  have hi := List.mem_range.1 hi
  obtain ⟨n, hn, hl⟩ := hleaf _ (Nat.lt_of_le_of_lt (Nat.div_mul_le_self i _) hi)
  have := hdec i hi
  rw [hn] at this
  exact packedAt_eq_some_iff.2 ⟨n, hn, hl, this⟩

/-- the same with the expected list given as the result of the index loop of `readVal` -/
theorem packedIter_eq_allSome (H : Hash) (et : Ty) (anchor : Node) (depth length : Nat)
    (vs : List Val) (hsz : 0 < et.basicSize) (hsz32 : et.basicSize ≤ 32)
    (hlen : length ≤ 2 ^ depth * (32 / et.basicSize))
    (hleaf : ∀ c, c * (32 / et.basicSize) < length →
      ∃ n, getAt anchor c depth = some n ∧ n.isLeaf = true)
    (hread : allSome ((List.range length).map fun i =>
      (getAt anchor (i / (32 / et.basicSize)) depth).bind
        fun c => readBasicAt H et c (i % (32 / et.basicSize))) = some vs) :
    packedIter H et anchor depth length = some vs := by
  obtain ⟨hl, hget⟩ := (allSome_range_iff_getD (Val.num 0)).1 hread
  rw [packedIter_eq_index H et anchor depth length _ hsz hsz32 hlen hleaf hget, ← hl]
  exact congrArg some (range_map_getElem vs _ fun i hi => getD_of_lt vs _ i hi)

/-- Converse of `packedIter_eq_index`: if `PackedIter` does not raise, it yielded `length`
    elements, every chunk it visited is a reachable leaf, and every yielded element is what reading
    by index returns.  So the iterator succeeds iff all chunks are leaves and all indexed reads
    succeed, and then both give the same list. -/
theorem packedIter_some_index (H : Hash) (et : Ty) (anchor : Node) (depth length : Nat)
    (vs : List Val) (h : packedIter H et anchor depth length = some vs) :
    et.basicSize ≠ 0 ∧ length ≤ 2 ^ depth * (32 / et.basicSize) ∧ vs.length = length ∧
    (∀ c, c * (32 / et.basicSize) < length →
      ∃ n, getAt anchor c depth = some n ∧ n.isLeaf = true) ∧
    (∀ i, i < length →
      ((getAt anchor (i / (32 / et.basicSize)) depth).bind
        fun c => readBasicAt H et c (i % (32 / et.basicSize))) = some (vs.getD i (Val.num 0))) := by
  have hsz : et.basicSize ≠ 0 := fun h0 => by
    rw [packedIter_size_zero H et anchor depth length h0] at h
    cases h
  have hlen : length ≤ 2 ^ depth * (32 / et.basicSize) := Nat.le_of_not_lt fun hl => by
    rw [packedIter_too_long H et anchor depth length hl] at h
    cases h
  rw [packedIter_eq H et anchor depth length hsz hlen] at h
  obtain ⟨hl, hget⟩ := (allSome_range_iff_getD (Val.num 0)).1 h
  refine ⟨hsz, hlen, hl, fun c hc => ?_, fun i hi => ?_⟩
  · have hper : 0 < 32 / et.basicSize := Nat.pos_of_ne_zero fun h0 => by
      rw [h0, Nat.mul_zero] at hc hlen
      exact Nat.not_lt.2 hlen hc
    obtain ⟨n, hn, hnl, _⟩ := packedAt_eq_some_iff.1 (hget _ hc)
    rw [Nat.mul_div_cancel _ hper] at hn
    exact ⟨n, hn, hnl⟩
  · obtain ⟨n, hn, _, hd⟩ := packedAt_eq_some_iff.1 (hget i hi)
    rw [hn]
    exact hd

theorem bit_isRun (H : Hash) (anchor : Node) (depth length : Nat) :
    IsRun (bitfieldIterNext H anchor depth) (·.i) length (bitfieldIterRun H anchor depth length) :=
  ⟨fun _ => rfl, fun k st => by
    rw [bitfieldIterRun]
    split
    · rfl
    · cases bitfieldIterNext H anchor depth st <;> rfl⟩

/-- bit `i` as `BitfieldIter` delivers it: chunk `i / 256` has to be a reachable leaf -/
def bitAt (H : Hash) (anchor : Node) (depth i : Nat) : Option Bool :=
  (getAt anchor (i / 256) depth).bind fun c =>
    if c.isLeaf then some (bitOfChunk (c.root H) i) else none

theorem bitAt_eq_some_iff {H : Hash} {anchor : Node} {depth i : Nat} {b : Bool} :
    bitAt H anchor depth i = some b ↔
      ∃ n, getAt anchor (i / 256) depth = some n ∧ n.isLeaf = true ∧
        bitOfChunk (n.root H) i = b := by
  simp [bitAt, Option.bind_eq_some_iff]

/-- Invariant of `BitfieldIter`: `j = 0` means a new chunk is needed (`i` is a multiple of 256 and
    `rootIndex` chunks are consumed); otherwise `1 ≤ j ≤ 255` and `currentRoot` is the root of chunk
    `rootIndex - 1`. -/
def BitInv (H : Hash) (anchor : Node) (depth : Nat) (st : BitfieldIterState) : Prop :=
  NodeIterInv anchor depth { i := st.rootIndex, stack := st.stack } ∧
  ((st.j = 0 ∧ st.i = st.rootIndex * 256) ∨
   (0 < st.j ∧ st.j < 256 ∧ ∃ q n, st.rootIndex = q + 1 ∧ st.i = q * 256 + st.j ∧
      getAt anchor q depth = some n ∧ n.isLeaf = true ∧ n.root H = st.currentRoot))

theorem bitInv_init (H : Hash) (anchor : Node) (depth : Nat) (c : Chunk) :
    BitInv H anchor depth
      { i := 0, j := 0, rootIndex := 0, currentRoot := c, stack := List.replicate depth none } :=
  ⟨nodeIterInv_init anchor depth, .inl ⟨rfl, by simp⟩⟩

theorem bitfieldIterNext_inside {H : Hash} {anchor : Node} {depth : Nat} {st : BitfieldIterState}
    (h : st.j > 0) :
    bitfieldIterNext H anchor depth st = some (bitfieldIterBit st.currentRoot st.j,
      { st with j := if st.j + 1 > 0xff then 0 else st.j + 1, i := st.i + 1 }) := by
  rw [bitfieldIterNext, if_pos h]

theorem bitfieldIterNext_fetch {H : Hash} {anchor : Node} {depth : Nat} {st : BitfieldIterState}
    (h : ¬ st.j > 0) :
    bitfieldIterNext H anchor depth st =
      (nodeIterNext anchor depth ⟨st.rootIndex, st.stack⟩).bind fun r =>
        if r.1.isLeaf then (some ((((r.1.root H).getD 0 0).toNat &&& 1) == 1)).map fun el =>
          (el, ⟨st.i + 1, 1, st.rootIndex + 1, r.1.root H, r.2.stack⟩) else none := by
  rw [bitfieldIterNext, if_neg h]
  cases nodeIterNext anchor depth ⟨st.rootIndex, st.stack⟩ with
  | none => rfl
  | some r =>
    obtain ⟨node, walk⟩ := r
    cases hl : node.isLeaf <;> simp [hl]

/-- One `__next__` from an invariant state reads bit `i` by index. -/
theorem bitfieldIterNext_step (H : Hash) (anchor : Node) (depth : Nat) (st : BitfieldIterState)
    (hinv : BitInv H anchor depth st) (hlt : st.i < 2 ^ depth * 256) :
    (∀ b, bitAt H anchor depth st.i = some b →
      ∃ st', bitfieldIterNext H anchor depth st = some (b, st') ∧ st'.i = st.i + 1 ∧
        BitInv H anchor depth st') ∧
    (bitAt H anchor depth st.i = none → bitfieldIterNext H anchor depth st = none) := by
  obtain ⟨i, j, rootIndex, cur, stack⟩ := st
  obtain ⟨hni, hcase⟩ := hinv
  simp only at hni hcase hlt ⊢
  rcases hcase with ⟨hj, hi⟩ | ⟨hj0, hjp, q, m, hr, hi, hq, hml, hroot⟩
  · have hmod : i % 256 = 0 := by rw [hi, Nat.mul_mod_left]
    have hg : bitAt H anchor depth i = (getAt anchor rootIndex depth).bind fun c =>
        if c.isLeaf then some ((((c.root H).getD 0 0).toNat &&& 1) == 1) else none := by
      rw [bitAt, hi, Nat.mul_div_cancel _ (by decide), ← hi]
      simp only [firstBit_eq _ i hmod]
    rw [hg, bitfieldIterNext_fetch (Nat.not_lt.2 (Nat.le_of_eq hj))]
    exact fetch_step anchor depth ⟨rootIndex, stack⟩ hni (Nat.lt_of_mul_lt_mul_right (hi ▸ hlt))
      (fun c => some ((((c.root H).getD 0 0).toNat &&& 1) == 1))
      (fun n w => ⟨i + 1, 1, rootIndex + 1, n.root H, w⟩)
      (fun st' => st'.i = i + 1 ∧ BitInv H anchor depth st')
      fun n w hn hl hw => ⟨rfl, hw, .inr ⟨Nat.one_pos, (by decide : 1 < 256), rootIndex, n, rfl,
        congrArg (· + 1) hi, hn, hl, rfl⟩⟩
  · obtain ⟨hdiv, hmod⟩ := div_mod_of 256 q j hjp
    rw [← hi] at hdiv hmod
    have hg : bitAt H anchor depth i = some (bitOfChunk cur i) := by
      rw [bitAt, hdiv, hq, Option.bind_some, if_pos hml, hroot]
    rw [hg, bitfieldIterNext_inside hj0, bitfieldIterBit_eq cur i j hmod]
    refine ⟨fun b hd => ⟨_, by rw [Option.some.inj hd], rfl, hni, ?_⟩, fun hd => (nomatch hd)⟩
    by_cases hlast : j + 1 > 0xff
    · refine .inl ⟨if_pos hlast, ?_⟩
      simp only [hr, hi, Nat.succ_mul]
      omega
    · refine .inr ⟨?_, ?_, q, m, hr, ?_, hq, hml, hroot⟩ <;> simp only [hlast, if_false] <;> omega

theorem bitfieldIter_too_long (H : Hash) (anchor : Node) (depth length : Nat)
    (h : 2 ^ depth * 256 < length) : bitfieldIter H anchor depth length = none :=
  if_pos h

/-- `BitfieldIter` is the index loop, for every depth and length: it yields
    `bitAt 0, …, bitAt (length-1)` and raises as soon as one of the chunks is missing or no leaf. -/
theorem bitfieldIter_eq (H : Hash) (anchor : Node) (depth length : Nat)
    (hlen : length ≤ 2 ^ depth * 256) :
    bitfieldIter H anchor depth length = allSome ((List.range length).map (bitAt H anchor depth)) := by
  rw [bitfieldIter, if_neg (Nat.not_lt.2 hlen),
    run_eq_allSome (bit_isRun H anchor depth length) (BitInv H anchor depth) _
      (fun st hinv hlt => bitfieldIterNext_step H anchor depth st hinv (Nat.lt_of_lt_of_le hlt hlen))
      length _ (bitInv_init H anchor depth _) (Nat.le_of_eq (Nat.sub_zero _)),
    List.range_eq_range']
  rfl

theorem bitfieldIterRun_fuel (H : Hash) (anchor : Node) (depth length : Nat)
    (fuel : Nat) (st : BitfieldIterState) (hfuel : length - st.i ≤ fuel) :
    bitfieldIterRun H anchor depth length fuel st
      = bitfieldIterRun H anchor depth length (length - st.i) st := by
  refine run_fuel (bit_isRun H anchor depth length) (fun s v s' h => ?_) fuel st hfuel
  by_cases hj : s.j > 0
  · rw [bitfieldIterNext_inside hj] at h
    cases h
    rfl
  · rw [bitfieldIterNext_fetch hj, Option.bind_eq_some_iff] at h
    obtain ⟨r, -, h⟩ := h
    split at h
    · cases h
      rfl
    · cases h

/-- If every chunk `c < ⌈length / 256⌉` is reachable by gindex and is a leaf, the iterator yields bit
    `i` of chunk `i / 256` for `i = 0 … length-1` — what `BitsView.get(i)` returns. -/
theorem bitfieldIter_eq_index (H : Hash) (anchor : Node) (depth length : Nat) (f : Nat → Bool)
    (hlen : length ≤ 2 ^ depth * 256)
    (hleaf : ∀ c, c * 256 < length → ∃ n, getAt anchor c depth = some n ∧ n.isLeaf = true)
    (hdec : ∀ i, i < length →
      (getAt anchor (i / 256) depth).map (fun c => bitOfChunk (c.root H) i) = some (f i)) :
    bitfieldIter H anchor depth length = some ((List.range length).map f) := by
  rw [bitfieldIter_eq H anchor depth length hlen]
  refine allSome_map_some _ _ f fun i hi => ?_
  have hi := List.mem_range.1 hi
  obtain ⟨n, hn, hl⟩ := hleaf _ (Nat.lt_of_le_of_lt (Nat.div_mul_le_self i _) hi)
  have := hdec i hi
  rw [hn] at this
  exact bitAt_eq_some_iff.2 ⟨n, hn, hl, Option.some.inj this⟩

/-- Converse of `bitfieldIter_eq_index`: if `BitfieldIter` does not raise, it yielded `length`
    bits, every chunk it visited is a reachable leaf, and every yielded bit is the bit indexing
    returns. -/
theorem bitfieldIter_some_index (H : Hash) (anchor : Node) (depth length : Nat)
    (bs : List Bool) (h : bitfieldIter H anchor depth length = some bs) :
    length ≤ 2 ^ depth * 256 ∧ bs.length = length ∧
    (∀ c, c * 256 < length → ∃ n, getAt anchor c depth = some n ∧ n.isLeaf = true) ∧
    (∀ i, i < length →
      (getAt anchor (i / 256) depth).map (fun c => bitOfChunk (c.root H) i)
        = some (bs.getD i false)) := by
  have hlen : length ≤ 2 ^ depth * 256 := Nat.le_of_not_lt fun hl => by
    rw [bitfieldIter_too_long H anchor depth length hl] at h
    cases h
  rw [bitfieldIter_eq H anchor depth length hlen] at h
  obtain ⟨hl, hget⟩ := (allSome_range_iff_getD false).1 h
  refine ⟨hlen, hl, fun c hc => ?_, fun i hi => ?_⟩
  · obtain ⟨n, hn, hnl, _⟩ := bitAt_eq_some_iff.1 (hget _ hc)
    rw [Nat.mul_div_cancel _ (by decide)] at hn
    exact ⟨n, hn, hnl⟩
  · obtain ⟨n, hn, _, hb⟩ := bitAt_eq_some_iff.1 (hget i hi)
    rw [hn, Option.map_some, hb]

/-- `BitfieldIter` succeeds exactly when every needed chunk is a reachable leaf -/
theorem bitfieldIter_isSome_iff (H : Hash) (anchor : Node) (depth length : Nat) :
    (bitfieldIter H anchor depth length).isSome ↔
      (length ≤ 2 ^ depth * 256 ∧
        ∀ c, c * 256 < length → ∃ n, getAt anchor c depth = some n ∧ n.isLeaf = true) := by
  constructor
  · intro h
    obtain ⟨bs, hbs⟩ := Option.isSome_iff_exists.1 h
    obtain ⟨h1, _, h3, _⟩ := bitfieldIter_some_index H anchor depth length bs hbs
    exact ⟨h1, h3⟩
  · rintro ⟨h1, h2⟩
    rw [bitfieldIter_eq_index H anchor depth length
      (fun i => bitOfChunk (((getAt anchor (i / 256) depth).getD default).root H) i) h1 h2
      fun i hi => by
        obtain ⟨n, hn, _⟩ := h2 _ (Nat.lt_of_le_of_lt (Nat.div_mul_le_self i _) hi)
        rw [hn]
        rfl]
    rfl

theorem packed_facts (et : Ty) (hwf : et.wf = true) (hb : et.isBasic = true) (n : Nat) :
    0 < et.basicSize ∧ et.basicSize ≤ 32 ∧ n ≤ chunkLen et n * (32 / et.basicSize) ∧
      ∀ c, c * (32 / et.basicSize) < n → c < chunkLen et n := by
  have hper : 0 < 32 / et.basicSize := by
    rcases basicSize_cases et hwf hb with h | h | h | h | h | h <;> rw [h] <;> decide
  obtain ⟨h0, h32⟩ := Nat.div_pos_iff.1 hper
  refine ⟨h0, h32, le_mul_of_div_lt hper fun i hi => (DefaultNode.packed_chunk_lt et hwf hb n i hi).1,
    fun c hc => ?_⟩
  have := (DefaultNode.packed_chunk_lt et hwf hb n _ hc).1
  rwa [Nat.mul_div_cancel _ hper] at this

/-- `PackedIter` over any anchor through which the chunk tree `n` of a packed sequence `vs` is
    reached (the tree itself, or a node having it as left spine child) yields `vs`. -/
theorem packedIter_ct (H : Hash) (et : Ty) (vs : List Val) (d : Nat) (n : Node)
    (hwf : et.wf = true) (hb : et.isBasic = true) (hwt : ∀ v ∈ vs, WT et v = true)
    (hct : ChunkTree H d ((packInts et.basicSize (vs.map numOf)).map .leaf) n)
    (anchor : Node) (depth : Nat)
    (hanchor : ∀ c, c < 2 ^ d → getAt anchor c depth = getAt n c d) (hdepth : 2 ^ d ≤ 2 ^ depth) :
    packedIter H et anchor depth vs.length = some vs := by
  obtain ⟨hsz, hsz32, hcap, hchunk⟩ := packed_facts et hwf hb vs.length
  have hle := ct_length_le hct
  have hpl := packInts_length' et hwf hb (vs.map numOf)
  rw [List.length_map] at hpl
  rw [List.length_map, hpl] at hle
  have key := packedIter_eq_index H et anchor depth vs.length (fun i => vs.getD i (Val.num 0))
    hsz hsz32
    (Nat.le_trans hcap (Nat.mul_le_mul_right _ (Nat.le_trans hle hdepth)))
    (fun c hc => by
      have hc' := hchunk c hc
      have hc2 : c < ((packInts et.basicSize (vs.map numOf)).map Node.leaf).length := by
        rw [List.length_map, hpl]; exact hc'
      rw [hanchor c (by omega), ct_get hct hc2]
      exact ⟨_, rfl, by simp [Node.isLeaf]⟩)
    (fun i hi => by
      have := read_packed_elem H et vs d n hwf hb hwt hct i hi
      rw [hanchor _ this.2, this.1, getD_of_lt vs _ i hi])
  rw [key, range_map_getElem vs _ (fun i hi => getD_of_lt vs _ i hi)]

/-- `BitfieldIter` over any anchor through which the chunk tree of the bits `bs` is reached -/
theorem bitfieldIter_ct (H : Hash) (bs : List Bool) (d : Nat) (n : Node)
    (hct : ChunkTree H d ((packBits bs).map .leaf) n) (anchor : Node) (depth : Nat)
    (hanchor : ∀ c, c < 2 ^ d → getAt anchor c depth = getAt n c d) (hdepth : 2 ^ d ≤ 2 ^ depth) :
    bitfieldIter H anchor depth bs.length = some bs := by
  have hlen : bs.length ≤ 2 ^ depth * 256 := le_mul_of_div_lt (by decide) fun i hi =>
    Nat.lt_of_lt_of_le (read_bit_elem H bs d n hct i hi).2 hdepth
  rw [bitfieldIter_eq H anchor depth _ hlen]
  refine allSome_range_getElem bs _ fun i hi => ?_
  have hj : i / 256 < (packBits bs).length := by
    rw [packBits_length]
    omega
  obtain ⟨hr, hlt⟩ := read_bit_elem H bs d n hct i hi
  have hg : getAt anchor (i / 256) depth = some (.leaf (packBits bs)[i / 256]) := by
    rw [hanchor _ hlt, ct_get hct (by simpa using hj), List.getElem_map]
  rw [← hanchor _ hlt, hg] at hr
  exact bitAt_eq_some_iff.2 ⟨_, hg, rfl, Option.some.inj hr⟩

/-- packed `Vector`: `readonly_iter()` = `PackedIter(backing, tree_depth, length, elem_type)` -/
theorem reads_agree_packed_vector (H : Hash) (et : Ty) (len : Nat) (vs : List Val) (n : Node)
    (hwf : et.wf = true) (hb : et.isBasic = true)
    (h : Impl.Repr H (.vector et len) (.seq vs) n) :
    packedIter H et n (getDepth (chunkLen et len)) len = some vs := by
  unfold Impl.Repr at h; simp only [hb, if_true] at h
  obtain ⟨hlen, hwt, hct⟩ := h
  subst hlen
  exact packedIter_ct H et vs _ n hwf hb hwt hct n _ (fun _ _ => rfl) (Nat.le_refl _)

/-- packed `List`: the anchor is the WHOLE backing (contents + length mix-in) with
    `tree_depth() = contents_depth() + 1` -/
theorem reads_agree_packed_list (H : Hash) (et : Ty) (lim : Nat) (vs : List Val) (n : Node)
    (hwf : et.wf = true) (hb : et.isBasic = true)
    (h : Impl.Repr H (.list et lim) (.seq vs) n) :
    packedIter H et n (getDepth (chunkLen et lim) + 1) vs.length = some vs := by
  unfold Impl.Repr at h; simp only [hb, if_true] at h
  obtain ⟨_, c, rfl, hwt, hct⟩ := h
  exact packedIter_ct H et vs _ c hwf hb hwt hct _ _
    (fun i hi => by rw [mixInNode, getAt_mixin _ _ hi])
    (Nat.pow_le_pow_right (by decide) (Nat.le_succ _))

/-- …with the length read from the tree, as `readonly_iter()` does (`self.length()`) -/
theorem reads_agree_packed_list_len (H : Hash) (et : Ty) (lim : Nat) (vs : List Val) (n : Node)
    (hwf : et.wf = true) (hb : et.isBasic = true) (hlim : lim < 2 ^ 256)
    (h : Impl.Repr H (.list et lim) (.seq vs) n) :
    ((listLength H n).bind fun len => packedIter H et n (getDepth (chunkLen et lim) + 1) len)
      = some vs := by
  have hit := reads_agree_packed_list H et lim vs n hwf hb h
  unfold Impl.Repr at h
  obtain ⟨hl, c, rfl, _⟩ := h
  rw [listLength_mixin H c _ (Nat.lt_of_le_of_lt hl hlim)]
  exact hit

/-- `Bitvector.__iter__` = `BitfieldIter(backing, tree_depth, vector_length)` -/
theorem reads_agree_bits_vector (H : Hash) (len : Nat) (bs : List Bool) (n : Node)
    (h : Impl.Repr H (.bitvector len) (.bits bs) n) :
    bitfieldIter H n (getDepth ((len + 255) / 256)) len = some bs := by
  unfold Impl.Repr at h
  obtain ⟨hlen, hct⟩ := h
  subst hlen
  exact bitfieldIter_ct H bs _ n hct n _ (fun _ _ => rfl) (Nat.le_refl _)

/-- `Bitlist.__iter__` = `BitfieldIter(backing.get_left(), contents_depth, length)`: the anchor is the
    LEFT child (the contents), with the contents depth -/
theorem reads_agree_bits_list (H : Hash) (lim : Nat) (bs : List Bool) (n : Node)
    (h : Impl.Repr H (.bitlist lim) (.bits bs) n) :
    ((getLeft n).bind fun l => bitfieldIter H l (getDepth ((lim + 255) / 256)) bs.length)
      = some bs := by
  unfold Impl.Repr at h
  obtain ⟨_, c, rfl, hct⟩ := h
  simp only [mixInNode, getLeft, Option.bind_some]
  exact bitfieldIter_ct H bs _ c hct c _ (fun _ _ => rfl) (Nat.le_refl _)

/-- …with the length read from the tree (`self.length()`) -/
theorem reads_agree_bits_list_len (H : Hash) (lim : Nat) (bs : List Bool) (n : Node)
    (hlim : lim < 2 ^ 256) (h : Impl.Repr H (.bitlist lim) (.bits bs) n) :
    ((listLength H n).bind fun len => (getLeft n).bind fun l =>
      bitfieldIter H l (getDepth ((lim + 255) / 256)) len) = some bs := by
  have hit := reads_agree_bits_list H lim bs n h
  unfold Impl.Repr at h
  obtain ⟨hl, c, rfl, _⟩ := h
  rw [listLength_mixin H c _ (Nat.lt_of_le_of_lt hl hlim)]
  exact hit

/-- iterator and index loop coincide on represented packed vectors (both are the content) -/
theorem packedIter_eq_readVal_vector (H : Hash) (et : Ty) (len : Nat) (vs : List Val) (n : Node)
    (hwf : (Ty.vector et len).wf = true) (hlim : limitsOk (.vector et len) = true)
    (hb : et.isBasic = true) (h : Impl.Repr H (.vector et len) (.seq vs) n) :
    (packedIter H et n (getDepth (chunkLen et len)) len).map Val.seq
      = readVal H (.vector et len) n := by
  have hwf' : et.wf = true := by simp [Ty.wf] at hwf; exact hwf.2
  rw [reads_agree_packed_vector H et len vs n hwf' hb h, repr_read H _ _ n hwf hlim h]
  rfl

theorem bitfieldIter_eq_readVal_vector (H : Hash) (len : Nat) (bs : List Bool) (n : Node)
    (hwf : (Ty.bitvector len).wf = true) (h : Impl.Repr H (.bitvector len) (.bits bs) n) :
    (bitfieldIter H n (getDepth ((len + 255) / 256)) len).map Val.bits
      = readVal H (.bitvector len) n := by
  rw [reads_agree_bits_vector H len bs n h, repr_read H _ _ n hwf rfl h]
  rfl

/-- `NodeIter` over any anchor through which the chunk tree `n` with bottom nodes `ns` is reached -/
theorem nodeIter_ct (H : Hash) (d : Nat) (ns : List Node) (n : Node) (hct : ChunkTree H d ns n)
    (anchor : Node) (depth : Nat)
    (hanchor : ∀ c, c < 2 ^ d → getAt anchor c depth = getAt n c d) (hdepth : 2 ^ d ≤ 2 ^ depth) :
    nodeIter anchor depth ns.length = some ns := by
  have hle := ct_length_le hct
  apply nodeIter_eq_getAt anchor depth ns.length ns (by omega) _ rfl
  intro i hi
  rw [hanchor i (by omega), ct_get hct hi, getD_of_lt ns _ i hi]

/-- unpacked `Vector`: `ComplexElemIter` / `ComplexFreshElemIter` = `NodeIter(backing, tree_depth,
    length)` + `view_from_backing` on every yielded node -/
theorem reads_agree_unpacked_vector (H : Hash) (et : Ty) (len : Nat) (vs : List Val) (n : Node)
    (hb : et.isBasic = false) (h : Impl.Repr H (.vector et len) (.seq vs) n) :
    ∃ ns, nodeIter n (getDepth (chunkLen et len)) len = some ns ∧
      AllRel (Impl.Repr H et) vs ns := by
  unfold Impl.Repr at h; simp only [hb, Bool.false_eq_true, if_false] at h
  obtain ⟨hlen, ns, hall, hct⟩ := h
  refine ⟨ns, ?_, hall⟩
  have := nodeIter_ct H _ ns n hct n _ (fun _ _ => rfl) (Nat.le_refl _)
  rwa [← allRel_length hall, hlen] at this

/-- unpacked `List`: anchor = whole backing, depth = contents depth + 1 -/
theorem reads_agree_unpacked_list (H : Hash) (et : Ty) (lim : Nat) (vs : List Val) (n : Node)
    (hb : et.isBasic = false) (h : Impl.Repr H (.list et lim) (.seq vs) n) :
    ∃ ns, nodeIter n (getDepth (chunkLen et lim) + 1) vs.length = some ns ∧
      AllRel (Impl.Repr H et) vs ns := by
  unfold Impl.Repr at h; simp only [hb, Bool.false_eq_true, if_false] at h
  obtain ⟨_, c, rfl, ns, hall, hct⟩ := h
  refine ⟨ns, ?_, hall⟩
  have := nodeIter_ct H _ ns c hct (mixInNode c vs.length) (getDepth (chunkLen et lim) + 1)
    (fun i hi => by rw [mixInNode, getAt_mixin _ _ hi])
    (Nat.pow_le_pow_right (by decide) (Nat.le_succ _))
  rwa [← allRel_length hall] at this

/-- `Container.__iter__` = `ContainerElemIter(backing, tree_depth, field types)` -/
theorem reads_agree_container (H : Hash) (fs : List Ty) (vs : List Val) (n : Node)
    (h : Impl.Repr H (.container fs) (.seq vs) n) :
    ∃ ns, nodeIter n (getDepth fs.length) fs.length = some ns ∧ ReprFields H fs vs ns := by
  unfold Impl.Repr at h
  obtain ⟨ns, hf, hct⟩ := h
  refine ⟨ns, ?_, hf⟩
  have := nodeIter_ct H _ ns n hct n _ (fun _ _ => rfl) (Nat.le_refl _)
  rwa [(reprFields_length hf).2] at this

/-- reading every yielded element node through its own view (`view_from_backing` + full read) gives
    the elements back -/
theorem allRel_read (H : Hash) (et : Ty) (hwf : et.wf = true) (hlim : limitsOk et = true) :
    ∀ (vs : List Val) (ns : List Node), AllRel (Impl.Repr H et) vs ns →
      allSome (ns.map (readVal H et)) = some vs
  | [], [], _ => rfl
  | v :: vs, m :: ns, h => by
    simp only [List.map_cons, repr_read H et v m hwf hlim h.1, allSome,
      allRel_read H et hwf hlim vs ns h.2, Option.map_some]
  | [], _ :: _, h => by cases h
  | _ :: _, [], h => by cases h

/-- unpacked vector: iterate, then read each element = the content -/
theorem iter_then_read_vector (H : Hash) (et : Ty) (len : Nat) (vs : List Val) (n : Node)
    (hwf : et.wf = true) (hlim : limitsOk et = true) (hb : et.isBasic = false)
    (h : Impl.Repr H (.vector et len) (.seq vs) n) :
    ((nodeIter n (getDepth (chunkLen et len)) len).bind fun ns => allSome (ns.map (readVal H et)))
      = some vs := by
  obtain ⟨ns, hit, hall⟩ := reads_agree_unpacked_vector H et len vs n hb h
  rw [hit, Option.bind_some, allRel_read H et hwf hlim vs ns hall]

theorem iter_then_read_list (H : Hash) (et : Ty) (lim : Nat) (vs : List Val) (n : Node)
    (hwf : et.wf = true) (hlim : limitsOk et = true) (hb : et.isBasic = false)
    (h : Impl.Repr H (.list et lim) (.seq vs) n) :
    ((nodeIter n (getDepth (chunkLen et lim) + 1) vs.length).bind
      fun ns => allSome (ns.map (readVal H et))) = some vs := by
  obtain ⟨ns, hit, hall⟩ := reads_agree_unpacked_list H et lim vs n hb h
  rw [hit, Option.bind_some, allRel_read H et hwf hlim vs ns hall]

/-- container: the `i`-th yielded node, read as field type `i`, is field `i` -/
theorem iter_then_read_container (H : Hash) (fs : List Ty) (vs : List Val) (n : Node)
    (hwf : Ty.wfList fs = true) (hlim : limitsOkList fs = true)
    (h : Impl.Repr H (.container fs) (.seq vs) n) :
    ∃ ns, nodeIter n (getDepth fs.length) fs.length = some ns ∧ ns.length = fs.length ∧
      vs.length = fs.length ∧
      ∀ (i : Nat) (h1 : i < fs.length) (h2 : i < vs.length) (h3 : i < ns.length),
        readVal H fs[i] ns[i] = some vs[i] := by
  obtain ⟨ns, hit, hf⟩ := reads_agree_container H fs vs n h
  have hl := reprFields_length hf
  refine ⟨ns, hit, hl.2, hl.1, ?_⟩
  intro i h1 h2 h3
  have hr := (reprFields_get hf i _ _ (List.getElem?_eq_getElem h1) (List.getElem?_eq_getElem h2)).2
  have hwfi : ∀ (fs : List Ty) (i : Nat) (h : i < fs.length), Ty.wfList fs = true →
      limitsOkList fs = true → fs[i].wf = true ∧ limitsOk fs[i] = true := by
    intro fs
    induction fs with
    | nil => intro i h; simp at h
    | cons t ts ih =>
      intro i h hw hl
      simp [Ty.wfList] at hw
      simp [limitsOkList] at hl
      cases i with
      | zero => exact ⟨hw.1, hl.1⟩
      | succ i => exact ih i (by simpa using h) hw.2 hl.2
  obtain ⟨w1, w2⟩ := hwfi fs i h1 hwf hlim
  exact repr_read H _ _ _ w1 w2 hr

/-- two chunks of `uint128` (2 per chunk), 3 elements, depth 1: crosses a chunk boundary -/
example (H : Hash) :
    packedIter H (.uint 16)
      (.pair (.leaf (toLE 16 5 ++ toLE 16 6)) (.leaf (toLE 16 7 ++ toLE 16 0))) 1 3
      = some [.num 5, .num 6, .num 7] := by rfl

/-- `per_node = 1` (`uint256`): `j = 1 = per_node` right after the fetch -/
example (H : Hash) :
    packedIter H (.uint 32) (.pair (.leaf (toLE 32 9)) (.leaf (toLE 32 8))) 1 2
      = some [.num 9, .num 8] := by rfl

/-- a bottom node that is not a leaf makes the iterator raise (indexing would hash it instead) -/
example (H : Hash) :
    packedIter H (.uint 32) (.pair (.leaf (toLE 32 9)) (.pair (.leaf []) (.leaf []))) 1 2 = none := by
  rfl

/-- the length check of `__init__` -/
example (H : Hash) (n : Node) : packedIter H (.uint 32) n 1 3 = none := by rfl

example (H : Hash) :
    bitfieldIter H (.leaf (UInt8.ofNat 5 :: zeros 31)) 0 4 = some [true, false, true, false] := by
  simp [bitfieldIter, bitfieldIterRun, bitfieldIterNext, bitfieldIterBit, nodeIterNext, descendLeft,
    Node.isLeaf, Node.root]

end Rmk.ItersLaws
