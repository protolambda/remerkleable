/-
Laws of the GUARDED store (`Rmk/Impl/StoreGuard.lean`): a value view handed out by a union remembers the
selector of that moment; a mutation through a view whose hook chain contains a stale union link is refused.
Everything is generic in the pair hash `H`.
-/
import Rmk.Impl.StoreGuard
import Rmk.Proofs.StoreLaws
namespace Rmk.StoreGuardLaws
open Rmk Rmk.Impl Rmk.StoreLaws

/-- a guarded step that succeeds is a step on the views; a `child` or `copy` remembers one more selector,
    a `mutate` was not stale and leaves the selectors alone -/
theorem stepG_eq_some (H : Hash) (g g' : GStore) (op : SOp) :
    stepG H g op = some g' →
    step H g.views op = some g'.views ∧
    match op with
    | .child r _ => g'.sels = g.sels ++ [(g.views[r]?).bind (selOf H)]
    | .mutate r _ => staleChain H g.views g.sels (r + 1) r = false ∧ g'.sels = g.sels
    | .copy _ => g'.sels = g.sels ++ [none] := by
  intro h
  cases op with
  | child r key =>
    obtain ⟨s', hs, rfl⟩ := Option.map_eq_some_iff.mp h
    exact ⟨hs, rfl⟩
  | mutate r mop =>
    obtain ⟨hst, h⟩ := Option.ite_none_left_eq_some.mp h
    obtain ⟨s', hs, rfl⟩ := Option.map_eq_some_iff.mp h
    exact ⟨hs, Bool.eq_false_iff.mpr hst, rfl⟩
  | copy r =>
    obtain ⟨s', hs, rfl⟩ := Option.map_eq_some_iff.mp h
    exact ⟨hs, rfl⟩

theorem stepG_refines (H : Hash) (g g' : GStore) (op : SOp) :
    stepG H g op = some g' → step H g.views op = some g'.views :=
  fun h => (stepG_eq_some H g g' op h).1

theorem stepG_views (H : Hash) (g : GStore) (op : SOp)
    (h : ∀ r mop, op = .mutate r mop → staleChain H g.views g.sels (r + 1) r = false) :
    (stepG H g op).map (·.views) = step H g.views op := by
  cases op with
  | child r key => exact (Option.map_map ..).trans Option.map_id'
  | mutate r mop =>
    rw [stepG, h r mop rfl]
    exact (Option.map_map ..).trans Option.map_id'
  | copy r => exact (Option.map_map ..).trans Option.map_id'

theorem stepG_of_not_stale (H : Hash) (g : GStore) (r : Nat) (op : Op) :
    staleChain H g.views g.sels (r + 1) r = false →
    (stepG H g (.mutate r op)).map (·.views) = step H g.views (.mutate r op) := by
  intro h
  refine stepG_views H g _ fun r' mop' he => ?_
  cases he
  exact h

theorem stepG_child_views (H : Hash) (g : GStore) (r key : Nat) :
    (stepG H g (.child r key)).map (·.views) = step H g.views (.child r key) :=
  stepG_views H g _ nofun

theorem stepG_copy_views (H : Hash) (g : GStore) (r : Nat) :
    (stepG H g (.copy r)).map (·.views) = step H g.views (.copy r) :=
  stepG_views H g _ nofun

theorem stale_refused (H : Hash) (g : GStore) (r : Nat) (op : Op) :
    staleChain H g.views g.sels (r + 1) r = true → stepG H g (.mutate r op) = none :=
  fun h => if_pos h

theorem stepG_sels_length (H : Hash) (g g' : GStore) (op : SOp) :
    g.sels.length = g.views.length → stepG H g op = some g' → g'.sels.length = g'.views.length := by
  intro hl h
  obtain ⟨hs, h2⟩ := stepG_eq_some H g g' op h
  cases op with
  | child r key =>
    obtain ⟨o, ct, cn, _, _, hv⟩ := step_child_eq H g.views r key g'.views hs
    rw [hv, h2, List.length_append, List.length_append, hl]; rfl
  | mutate r mop => rw [h2.2, (step_mutate_shape H g.views r mop g'.views hs).1, hl]
  | copy r =>
    obtain ⟨o, _, hv⟩ := step_copy_eq H g.views r g'.views hs
    rw [hv, h2, List.length_append, List.length_append, hl]; rfl

/-- remembered selectors never change: the old `sels` are a prefix of the new ones -/
theorem stepG_sels_prefix (H : Hash) (g g' : GStore) (op : SOp) :
    stepG H g op = some g' → ∃ l, g'.sels = g.sels ++ l := by
  intro h
  have h2 := (stepG_eq_some H g g' op h).2
  cases op with
  | child r key => exact ⟨_, h2⟩
  | mutate r mop => exact ⟨[], h2.2.trans (List.append_nil _).symm⟩
  | copy r => exact ⟨_, h2⟩

theorem stepG_sels_take (H : Hash) (g g' : GStore) (op : SOp) :
    stepG H g op = some g' → g'.sels.take g.sels.length = g.sels := by
  intro h
  obtain ⟨l, hl⟩ := stepG_sels_prefix H g g' op h
  rw [hl]; simp

theorem stepG_views_length_le (H : Hash) (g g' : GStore) (op : SOp) (h : stepG H g op = some g') :
    g.views.length ≤ g'.views.length :=
  (step_frame H g.views op g'.views (stepG_refines H g g' op h)).1

theorem stepG_valid (H : Hash) (g g' : GStore) (op : SOp) (hv : Valid g.views)
    (h : stepG H g op = some g') : Valid g'.views :=
  step_valid H g.views op g'.views hv (stepG_refines H g g' op h)

set_option linter.unusedVariables false in
/-- every value view of a union remembers a selector, and that selector designates the option whose
    type is the view's type -/
def SelTyped (H : Hash) (g : GStore) : Prop :=
  ∀ (c p key : Nat) (oc po : VObj) (hasNone : Bool) (opts : List Ty),
    g.views[c]? = some oc → oc.hook = some (p, key) → g.views[p]? = some po → po.ty = .union hasNone opts →
    ∃ sel, g.sels[c]? = some (some sel) ∧ Spec.optType hasNone opts sel = some oc.ty

theorem selTyped_init (H : Hash) (o : VObj) (h : o.hook = none) :
    SelTyped H { views := [o], sels := [none] } := by
  intro c p key oc po hasNone opts hc hh _ _
  cases c with
  | zero =>
    obtain rfl : o = oc := Option.some.inj hc
    rw [h] at hh
    cases hh
  | succ c => cases hc

/-- `childOf` on a union: the child type is the type of the option selected by the stored selector -/
theorem childOf_union_sel (H : Hash) (hasNone : Bool) (opts : List Ty) (n : Node) (key : Nat)
    (ct : Ty) (cn : Node) (h : childOf H (.union hasNone opts) n key = some (ct, cn)) :
    ∃ sel, unionSel H n = some sel ∧ Spec.optType hasNone opts sel = some ct := by
  cases n with
  | leaf x => cases h
  | pair l r =>
    obtain ⟨_, h⟩ := Option.ite_none_left_eq_some.mp h
    refine ⟨readLen H r, rfl, ?_⟩
    cases ho : Spec.optType hasNone opts (readLen H r) with
    | none =>
      rw [ho] at h
      cases h
    | some ot =>
      rw [ho] at h
      cases h
      rfl

/-- `SelTyped` after appending a view `x` with remembered selector `sx`: old links are the old links (parents
    have smaller references); the new link, if `x` has a hook, must be typed by `sx` -/
private theorem selTyped_append (H : Hash) (g g' : GStore) (x : VObj) (sx : Option Nat)
    (hv : Valid g.views) (hl : g.sels.length = g.views.length) (ht : SelTyped H g)
    (hvw : g'.views = g.views ++ [x]) (hs : g'.sels = g.sels ++ [sx])
    (hnew : ∀ p key, x.hook = some (p, key) → ∃ po, g.views[p]? = some po ∧
      ∀ hasNone opts, po.ty = .union hasNone opts →
        ∃ sel, sx = some sel ∧ Spec.optType hasNone opts sel = some x.ty) :
    SelTyped H g' := by
  intro c p key oc po hasNone opts hc hh hp hu
  rw [hvw] at hc hp
  rw [hs]
  rcases getElem?_snoc_cases hc with ⟨hcl, hc'⟩ | ⟨rfl, rfl⟩
  · rw [List.getElem?_append_left (Nat.lt_trans (hv c oc hc' p key hh).1 hcl)] at hp
    rw [List.getElem?_append_left (hl ▸ hcl)]
    exact ht c p key oc po hasNone opts hc' hh hp hu
  · obtain ⟨po', hp', hsel⟩ := hnew p key hh
    rw [List.getElem?_append_left (getElem?_lt_length hp'), hp'] at hp
    cases hp
    obtain ⟨sel, rfl, ho⟩ := hsel hasNone opts hu
    exact ⟨sel, by rw [← hl, List.getElem?_concat_length], ho⟩

theorem selTyped_step (H : Hash) (g g' : GStore) (op : SOp) :
    Valid g.views → g.sels.length = g.views.length → SelTyped H g → stepG H g op = some g' →
    SelTyped H g' := by
  intro hv hl ht h
  obtain ⟨hst, h2⟩ := stepG_eq_some H g g' op h
  cases op with
  | child r key =>
    obtain ⟨o, ct, cn, hr, hc, hvw⟩ := step_child_eq H g.views r key g'.views hst
    refine selTyped_append H g g' _ _ hv hl ht hvw h2 fun p k hh => ?_
    cases hh
    refine ⟨o, hr, fun hasNone opts hu => ?_⟩
    rw [hu] at hc
    obtain ⟨sel, h1, ho⟩ := childOf_union_sel H hasNone opts o.backing key ct cn hc
    exact ⟨sel, by rw [hr, Option.bind_some, selOf, hu]; exact h1, ho⟩
  | mutate r mop =>
    -- types, hooks and sels are unchanged
    obtain ⟨_, _, hty, hhk⟩ := step_mutate_shape H g.views r mop g'.views hst
    intro c p key oc' po' hasNone opts hc hh hp hu
    have old (q : Nat) (o' : VObj) (hq : g'.views[q]? = some o') :
        ∃ o, g.views[q]? = some o ∧ o.ty = o'.ty ∧ o.hook = o'.hook := by
      obtain ⟨o, ho, h1⟩ := Option.map_eq_some_iff.mp ((hty q).symm.trans (congrArg _ hq))
      have h2 := hhk q
      rw [hq, ho] at h2
      exact ⟨o, ho, h1, (Option.some.inj h2).symm⟩
    obtain ⟨oc, hc0, hcty, hchk⟩ := old c oc' hc
    obtain ⟨po, hp0, hpty, _⟩ := old p po' hp
    rw [h2.2, ← hcty]
    exact ht c p key oc po hasNone opts hc0 (hchk.trans hh) hp0 (hpty.trans hu)
  | copy r =>
    obtain ⟨o, _, hvw⟩ := step_copy_eq H g.views r g'.views hst
    exact selTyped_append H g g' _ _ hv hl ht hvw h2 nofun

theorem selTyped_run (H : Hash) (ops : List SOp) (g g' : GStore) :
    Valid g.views → g.sels.length = g.views.length → SelTyped H g → runG H g ops = some g' →
    Valid g'.views ∧ g'.sels.length = g'.views.length ∧ SelTyped H g' := by
  induction ops generalizing g with
  | nil =>
    intro hv hl ht h
    obtain rfl := Option.some.inj h
    exact ⟨hv, hl, ht⟩
  | cons op ops ih =>
    intro hv hl ht h
    obtain ⟨g1, hs, h⟩ := Option.bind_eq_some_iff.mp h
    exact ih g1 (stepG_valid H g g1 op hv hs) (stepG_sels_length H g g1 op hl hs)
      (selTyped_step H g g1 op hv hl ht hs) h

theorem parentOf_eq_hookOf (s : Store) (r : Nat) : parentOf s r = (hookOf s r).map (·.1) := by
  unfold parentOf hookOf
  cases s[r]? <;> rfl

/-- the guard walks the hook chain and asks each link -/
theorem staleChain_eq_any (H : Hash) (s : Store) (sels : List (Option Nat)) (fuel r : Nat) :
    staleChain H s sels fuel r = (chainAux s fuel r).any (staleLink H s sels) := by
  induction fuel generalizing r with
  | zero => rfl
  | succ f ih =>
    unfold staleChain chainAux
    rw [parentOf_eq_hookOf]
    cases hookOf s r with
    | none => simp only [Option.map_none, List.any_cons, List.any_nil]
    | some pk => simp only [Option.map_some, List.any_cons, ih]

/-- the guard refuses exactly when some link of the hook chain of `r` is stale -/
theorem staleChain_eq_false_iff (H : Hash) (s : Store) (sels : List (Option Nat)) (r : Nat) :
    staleChain H s sels (r + 1) r = false ↔ ∀ c ∈ chain s r, staleLink H s sels c = false := by
  rw [staleChain_eq_any, List.any_eq_false]
  simp only [Bool.not_eq_true]
  rfl

/-- a non-stale link of a selector-typed store: the union parent has, NOW, the remembered selector -/
theorem not_stale_link_selected (H : Hash) (g : GStore) (c p key : Nat) (oc po : VObj) (hasNone : Bool)
    (opts : List Ty) (ht : SelTyped H g) (hst : staleLink H g.views g.sels c = false)
    (hc : g.views[c]? = some oc) (hh : oc.hook = some (p, key)) (hp : g.views[p]? = some po)
    (hu : po.ty = .union hasNone opts) :
    ∃ sel, unionSel H po.backing = some sel ∧ Spec.optType hasNone opts sel = some oc.ty := by
  obtain ⟨sel, hs, ho⟩ := ht c p key oc po hasNone opts hc hh hp hu
  simp only [staleLink, hc, hh, hp, hu, hs, bne_eq_false_iff_eq] at hst
  exact ⟨sel, hst, ho⟩

/-- a write that is let through: for EVERY link `c → p` on the hook chain of `r`, the union `p` has, now, the
    selector its value view `c` was handed out for (so each hook stores a node of the selected option's type) -/
theorem guarded_write_selected_option_chain (H : Hash) (g g' : GStore) (r : Nat) (op : Op) (c : Nat)
    (oc po : VObj) (p key : Nat) (hasNone : Bool) (opts : List Ty) :
    SelTyped H g → stepG H g (.mutate r op) = some g' → c ∈ chain g.views r → g.views[c]? = some oc →
    oc.hook = some (p, key) → g.views[p]? = some po → po.ty = .union hasNone opts →
    ∃ sel, unionSel H po.backing = some sel ∧ Spec.optType hasNone opts sel = some oc.ty := by
  intro ht h hmem hc hh hp hu
  have hst := (stepG_eq_some H g g' _ h).2.1
  exact not_stale_link_selected H g c p key oc po hasNone opts ht
    ((staleChain_eq_false_iff H g.views g.sels r).mp hst c hmem) hc hh hp hu

/-- in particular for the written view itself: a write through a union's value view that is let through
    stores a node of the type of the option the union has selected now -/
theorem guarded_write_selected_option (H : Hash) (g g' : GStore) (r : Nat) (op : Op) (oc po : VObj)
    (p key : Nat) (hasNone : Bool) (opts : List Ty) :
    SelTyped H g → stepG H g (.mutate r op) = some g' → g.views[r]? = some oc →
    oc.hook = some (p, key) → g.views[p]? = some po → po.ty = .union hasNone opts →
    ∃ sel, unionSel H po.backing = some sel ∧ Spec.optType hasNone opts sel = some oc.ty := by
  intro ht h
  exact guarded_write_selected_option_chain H g g' r op r oc po p key hasNone opts ht h (mem_chain_self _ _)

section Example

/-- a toy pair hash (the theorems above hold for every `H`) -/
private def H0 : Hash := fun a b => a ++ b

/-- `Union[List[uint8, 4], Container{uint8}]` -/
private def uTy : Ty := .union false [.list (.uint 1) 4, .container [.uint 1]]

/-- the union holding option 0, the list `[1]` -/
private def g0 : Option GStore :=
  (construct H0 uTy (.un 0 (.seq [.num 1]))).map fun b =>
    { views := [⟨uTy, b, none⟩], sels := [none] }

/-- take the value view, change the union to option 1 through the parent, then append through the OLD
    value view: refused by the guard, let through by the unguarded store -/
private def exStale : Option (Bool × Bool × Option Nat) := do
  let g ← g0
  let g1 ← stepG H0 g (.child 0 0)
  let g2 ← stepG H0 g1 (.mutate 0 (.change 1 (.seq [.num 7])))
  let parent ← g2.views[0]?
  pure ((stepG H0 g2 (.mutate 1 (.append (.num 2)))).isNone,
        (step H0 g2.views (.mutate 1 (.append (.num 2)))).isSome,
        unionSel H0 parent.backing)

example : exStale = some (true, true, some 1) := by decide +kernel

/-- with the selector unchanged the guarded step succeeds and the parent sees the new list -/
private def exFresh : Option (Option Val × List (Option Nat)) := do
  let g ← g0
  let g1 ← stepG H0 g (.child 0 0)
  let g2 ← stepG H0 g1 (.mutate 1 (.append (.num 2)))
  let parent ← g2.views[0]?
  pure (readVal H0 uTy parent.backing, g2.sels)

example : (exFresh == some (some (.un 0 (.seq [.num 1, .num 2])), [none, some 0])) = true := by decide +kernel

/-- changing the union to the SAME selector (another value of option 0) keeps the old value view usable -/
private def exSameSel : Option Bool := do
  let g ← g0
  let g1 ← stepG H0 g (.child 0 0)
  let g2 ← stepG H0 g1 (.mutate 0 (.change 0 (.seq [.num 5, .num 6])))
  pure (stepG H0 g2 (.mutate 1 (.append (.num 2)))).isSome

example : exSameSel = some true := by decide +kernel

end Example

end Rmk.StoreGuardLaws
