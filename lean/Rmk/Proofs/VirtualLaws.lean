/-
Laws of lazily loaded (virtual) trees (property C20): a mixed tree over a source that serves a
materialised tree navigates, fails and mutates exactly like the materialised tree, and memoising the
source's answers per node object makes every (node object, method) reach the source at most once.
All statements are generic in the pair hash `H`.
-/
import Rmk.Impl.Virtual
import Rmk.Proofs.TreeLaws
namespace Rmk.VirtualLaws
open Rmk Rmk.Virtual

def OptRel {α β} (R : α → β → Prop) : Option α → Option β → Prop
  | none, none => True
  | some a, some b => R a b
  | _, _ => False

section
variable {α β α' β' γ : Type _} {R : α → β → Prop} {R' : α' → β' → Prop}
  {x : Option α} {y : Option β}

theorem optRel_none : OptRel R (none : Option α) (none : Option β) := trivial

theorem optRel_some {a : α} {b : β} (h : R a b) : OptRel R (some a) (some b) := h

theorem optRel_refl (x : Option α) : OptRel Eq x x := by
  cases x with
  | none => exact trivial
  | some a => exact rfl

theorem optRel_cases (h : OptRel R x y) :
    (x = none ∧ y = none) ∨ ∃ a b, x = some a ∧ y = some b ∧ R a b := by
  cases x <;> cases y <;> first | exact h.elim | exact .inl ⟨rfl, rfl⟩ | exact .inr ⟨_, _, rfl, rfl, h⟩

theorem OptRel.none_iff (h : OptRel R x y) : x = none ↔ y = none := by
  rcases optRel_cases h with ⟨rfl, rfl⟩ | ⟨a, b, rfl, rfl, _⟩ <;> simp

theorem OptRel.some_some {a : α} {b : β} (h : OptRel R x y) (hx : x = some a) (hy : y = some b) :
    R a b := by
  subst hx hy; exact h

theorem OptRel.exists_right {a : α} (h : OptRel R x y) (hx : x = some a) : ∃ b, y = some b ∧ R a b := by
  subst hx
  cases y with
  | none => exact h.elim
  | some b => exact ⟨b, rfl, h⟩

theorem OptRel.exists_left {b : β} (h : OptRel R x y) (hy : y = some b) : ∃ a, x = some a ∧ R a b := by
  subst hy
  cases x with
  | none => exact h.elim
  | some a => exact ⟨a, rfl, h⟩

theorem optRel_bind {f : α → Option α'} {g : β → Option β'}
    (h : OptRel R x y) (hfg : ∀ a b, R a b → OptRel R' (f a) (g b)) :
    OptRel R' (x.bind f) (y.bind g) := by
  rcases optRel_cases h with ⟨rfl, rfl⟩ | ⟨a, b, rfl, rfl, hab⟩
  · exact trivial
  · exact hfg a b hab

theorem OptRel.map (f : α → α') (g : β → β') (h : OptRel R x y)
    (hfg : ∀ a b, R a b → R' (f a) (g b)) : OptRel R' (x.map f) (y.map g) := by
  rcases optRel_cases h with ⟨rfl, rfl⟩ | ⟨a, b, rfl, rfl, hab⟩
  · exact trivial
  · exact hfg a b hab

theorem optRel_bind_eq {f : α → Option γ} {g : β → Option γ}
    (h : OptRel R x y) (hfg : ∀ a b, R a b → f a = g b) : x.bind f = y.bind g := by
  rcases optRel_cases h with ⟨rfl, rfl⟩ | ⟨a, b, rfl, rfl, hab⟩
  · rfl
  · exact hfg a b hab

theorem optRel_map_eq {f : α → γ} {g : β → γ}
    (h : OptRel R x y) (hfg : ∀ a b, R a b → f a = g b) : x.map f = y.map g := by
  rcases optRel_cases h with ⟨rfl, rfl⟩ | ⟨a, b, rfl, rfl, hab⟩
  · rfl
  · exact congrArg some (hfg a b hab)

theorem optRel_ite {c : Prop} [Decidable c] {x' : Option α} {y' : Option β}
    (h : OptRel R x y) (h' : OptRel R x' y') :
    OptRel R (if c then x else x') (if c then y else y') := by
  split
  · exact h
  · exact h'

theorem optRel_iteN {c : Prop} [Decidable c] (h : OptRel R x y) :
    OptRel R (if c then none else x) (if c then none else y) :=
  optRel_ite optRel_none h

end

theorem serves_child {H : Hash} {src : Src} {l r : Node} (h : Serves H src (.pair l r)) (b : Bool) :
    Serves H src (if b then r else l) := by
  cases b
  · exact h.2.1
  · exact h.2.2

theorem serves_getPath {H : Hash} {src : Src} {n : Node} (h : Serves H src n) :
    ∀ (p : List Bool) (n' : Node), getPath n p = some n' → Serves H src n' := by
  intro p
  induction p generalizing n with
  | nil => intro n' hn; simp at hn; subst hn; exact h
  | cons b bs ih =>
    intro n' hn
    cases n with
    | leaf c => simp at hn
    | pair l r =>
      cases b
      · simp at hn; exact ih h.2.1 n' hn
      · simp at hn; exact ih h.2.2 n' hn

theorem mat_virt {H : Hash} {src : Src} {n : Node} (h : Serves H src n) :
    Mat H src (.virt (n.root H)) n := by
  cases n <;> exact ⟨rfl, h⟩

theorem mat_ofNode (H : Hash) (src : Src) (n : Node) : Mat H src (MNode.ofNode n) n := by
  induction n with
  | leaf c => exact rfl
  | pair l r ihl ihr => exact ⟨ihl, ihr⟩

/-- Induction over the ways a mixed tree materialises: an ordinary leaf or pair, or a virtual node whose
    source answers for a leaf or for a pair (whose children are then served as virtual nodes). -/
theorem mat_induction {H : Hash} {src : Src} {P : MNode → Node → Prop} {m : MNode} {n : Node}
    (h : Mat H src m n)
    (leaf : ∀ c, P (.leaf c) (.leaf c))
    (pair : ∀ l r l' r', Mat H src l l' → Mat H src r r' → P l l' → P r r' →
      P (.pair l r) (.pair l' r'))
    (vleaf : ∀ c, src c = none → P (.virt c) (.leaf c))
    (vpair : ∀ l r, src (H (l.root H) (r.root H)) = some (l.root H, r.root H) →
      Mat H src (.virt (l.root H)) l → Mat H src (.virt (r.root H)) r →
      P (.virt (H (l.root H) (r.root H))) (.pair l r)) :
    P m n := by
  induction m generalizing n with
  | leaf c =>
    cases n with
    | leaf c' => exact (h : c = c') ▸ leaf c
    | pair _ _ => exact False.elim h
  | pair l r ihl ihr =>
    cases n with
    | leaf _ => exact False.elim h
    | pair l' r' => exact pair l r l' r' h.1 h.2 (ihl h.1) (ihr h.2)
  | virt c =>
    cases n with
    | leaf c' =>
      obtain ⟨rfl, hs⟩ : c' = c ∧ src c' = none := h
      exact vleaf _ hs
    | pair l r =>
      obtain ⟨rfl, hs, hl, hr⟩ : H (l.root H) (r.root H) = c ∧ _ ∧ Serves H src l ∧ Serves H src r := h
      exact vpair l r hs (mat_virt hl) (mat_virt hr)

/-- roots coincide (the virtual side never hashes below a virtual node) -/
theorem mat_root {H : Hash} {src : Src} {m : MNode} {n : Node} (h : Mat H src m n) :
    m.root H = n.root H := by
  refine mat_induction h (P := fun m n => m.root H = n.root H) ?_ ?_ ?_ ?_
  · intro c; rfl
  · intro l r l' r' _ _ hl hr; exact congr (congrArg H hl) hr
  · intro c _; rfl
  · intro l r _ _ _; rfl

theorem isLeafM_mat {H : Hash} {src : Src} {m : MNode} {n : Node} (h : Mat H src m n) :
    isLeafM src m = n.isLeaf := by
  refine mat_induction h (P := fun m n => isLeafM src m = n.isLeaf) ?_ ?_ ?_ ?_
  · intro c; rfl
  · intro l r l' r' _ _ _ _; rfl
  · intro c hc; unfold isLeafM; simp only [hc]; rfl
  · intro l r hs _ _; unfold isLeafM; simp only [hs]; rfl

/-- the children of related nodes are related, and `get_left/get_right` fail together -/
theorem childM_mat {H : Hash} {src : Src} {m : MNode} {n : Node} (h : Mat H src m n) (b : Bool) :
    OptRel (Mat H src) (childM src b m) (if b then getRight n else getLeft n) := by
  refine mat_induction h (P := fun m n =>
    OptRel (Mat H src) (childM src b m) (if b then getRight n else getLeft n)) ?_ ?_ ?_ ?_
  · intro c; cases b <;> exact trivial
  · intro l r l' r' hl hr _ _; cases b <;> assumption
  · intro c hc; unfold childM; simp only [hc]; cases b <;> exact trivial
  · intro l r hs hl hr; unfold childM; simp only [hs]; cases b <;> assumption

theorem getPathM_cons (src : Src) (m : MNode) (b : Bool) (bs : List Bool) :
    getPathM src m (b :: bs) = (childM src b m).bind (getPathM src · bs) := by
  cases m with
  | leaf c => rfl
  | pair l r => cases b <;> rfl
  | virt c => simp only [getPathM, childM]; cases src c <;> rfl

theorem getPath_cons (n : Node) (b : Bool) (bs : List Bool) :
    getPath n (b :: bs) = (if b then getRight n else getLeft n).bind (getPath · bs) := by
  cases n <;> cases b <;> rfl

theorem getPathM_rel {H : Hash} {src : Src} {m : MNode} {n : Node} (h : Mat H src m n)
    (p : List Bool) : OptRel (Mat H src) (getPathM src m p) (getPath n p) := by
  induction p generalizing m n with
  | nil => rw [getPathM, getPath_nil]; exact h
  | cons b bs ih =>
    rw [getPathM_cons, getPath_cons]
    exact optRel_bind (childM_mat h b) fun _ _ hab => ih hab

/-- navigation errors coincide, and when both succeed the results are again `Mat`-related -/
theorem getPathM_mat {H : Hash} {src : Src} {m : MNode} {n : Node} (h : Mat H src m n)
    (p : List Bool) :
    (getPathM src m p = none ↔ getPath n p = none) ∧
    (∀ m' n', getPathM src m p = some m' → getPath n p = some n' → Mat H src m' n') :=
  ⟨(getPathM_rel h p).none_iff, fun _ _ hm hn => (getPathM_rel h p).some_some hm hn⟩

theorem getPathM_root {H : Hash} {src : Src} {m : MNode} {n : Node} (h : Mat H src m n)
    (p : List Bool) : (getPathM src m p).map (·.root H) = (getPath n p).map (·.root H) :=
  optRel_map_eq (getPathM_rel h p) fun _ _ => mat_root

theorem getterM_mat {H : Hash} {src : Src} {m : MNode} {n : Node} (h : Mat H src m n) (g : Nat) :
    OptRel (Mat H src) (getterM src m g) (getter n g) :=
  optRel_iteN (getPathM_rel h (gbits g))

theorem expandSetM_mat {H : Hash} {src : Src} {v : MNode} {v' : Node} (hv : Mat H src v v')
    (p : List Bool) : Mat H src (expandSetM H p v) (expandSet H p v') := by
  induction p with
  | nil => simpa [expandSetM, expandSet] using hv
  | cons b bs ih => cases b <;> simp [expandSetM, expandSet, Mat, zeroNode, ih]

theorem setPathM_rel {H : Hash} {src : Src} {m v : MNode} {n v' : Node} (e : Bool)
    (h : Mat H src m n) (hv : Mat H src v v') (p : List Bool) :
    OptRel (Mat H src) (setPathM H src e m p v) (setPath H e n p v') := by
  induction p generalizing m n with
  | nil => rw [setPathM, setPath_nil]; exact hv
  | cons b bs ih =>
    -- a leaf, ordinary or virtual, is expanded or refuses; a pair, ordinary or virtual, rebinds one child
    have hleaf (c : Chunk) : OptRel (Mat H src)
        (if e && c == zeroHash H (bs.length + 1) then some (expandSetM H (b :: bs) v) else none)
        (setPath H e (.leaf c) (b :: bs) v') :=
      optRel_ite (expandSetM_mat hv (b :: bs)) optRel_none
    have hpair {l r : MNode} {l' r' : Node} (hl : Mat H src l l') (hr : Mat H src r r') :
        OptRel (Mat H src)
          (if b then (setPathM H src e r bs v).map (fun x => .pair l x)
            else (setPathM H src e l bs v).map (fun x => .pair x r))
          (setPath H e (.pair l' r') (b :: bs) v') :=
      optRel_ite ((ih hr).map _ _ fun _ _ hab => ⟨hl, hab⟩) ((ih hl).map _ _ fun _ _ hab => ⟨hab, hr⟩)
    refine mat_induction h (P := fun m n =>
      OptRel (Mat H src) (setPathM H src e m (b :: bs) v) (setPath H e n (b :: bs) v')) ?_ ?_ ?_ ?_
    · intro c; exact hleaf c
    · intro l r l' r' hl hr _ _; exact hpair hl hr
    · intro c hc; simp only [setPathM, hc]; exact hleaf c
    · intro l r hs hl hr; simp only [setPathM, hs]; exact hpair hl hr

/-- writes through a mixed tree fail exactly when the write to the materialised tree fails, and the
    results are again `Mat`-related -/
theorem setPathM_mat {H : Hash} {src : Src} {m v : MNode} {n v' : Node} (e : Bool)
    (h : Mat H src m n) (hv : Mat H src v v') (p : List Bool) :
    (setPathM H src e m p v = none ↔ setPath H e n p v' = none) ∧
    (∀ m' n', setPathM H src e m p v = some m' → setPath H e n p v' = some n' → Mat H src m' n') :=
  ⟨(setPathM_rel e h hv p).none_iff, fun _ _ hm hn => (setPathM_rel e h hv p).some_some hm hn⟩

theorem setPathM_root {H : Hash} {src : Src} {m v : MNode} {n v' : Node} (e : Bool)
    (h : Mat H src m n) (hv : Mat H src v v') (p : List Bool) :
    (setPathM H src e m p v).map (·.root H) = (setPath H e n p v').map (·.root H) :=
  optRel_map_eq (setPathM_rel e h hv p) fun _ _ => mat_root

/-- `setPathMTop` (no expansion of a top-level virtual leaf) differs from `setPathM` only there, and not
    at all without `expand` -/
theorem setPathMTop_eq (H : Hash) (src : Src) (e : Bool) (m : MNode) (p : List Bool) (v : MNode)
    (h : e = false ∨ ∀ c, m = .virt c → src c ≠ none) :
    setPathMTop H src e m p v = setPathM H src e m p v := by
  unfold setPathMTop
  split
  · rename_i c b bs
    cases hc : src c with
    | some a => rfl
    | none =>
      rcases h with rfl | h
      · simp [setPathM, hc]
      · exact absurd hc (h c rfl)
  · rfl

/-- `setter` on a mixed tree, for EVERY top node: a top-level virtual leaf behaves like the materialised
    leaf (`setterMUnrepaired` models the library with defect D15, where it does not; see Defects.lean) -/
theorem setterM_mat {H : Hash} {src : Src} {m v : MNode} {n v' : Node} (e : Bool)
    (h : Mat H src m n) (hv : Mat H src v v') (g : Nat) :
    OptRel (Mat H src) (setterM H src m g e v) (setter H n g e v') :=
  optRel_iteN (setPathM_rel e h hv (gbits g))

/-- the unrepaired `setter` agrees for every top node that is not a virtual leaf (and everywhere without `expand`) -/
theorem setterMUnrepaired_mat {H : Hash} {src : Src} {m v : MNode} {n v' : Node} (e : Bool)
    (h : Mat H src m n) (hv : Mat H src v v') (g : Nat)
    (htop : e = false ∨ ∀ c, m = .virt c → src c ≠ none) :
    OptRel (Mat H src) (setterMUnrepaired H src m g e v) (setter H n g e v') := by
  unfold setterMUnrepaired
  rw [setPathMTop_eq H src e m _ v htop]
  exact setterM_mat e h hv g

/-- get-after-set through a virtual backing: reading the written position gives a node related to
    the one written -/
theorem getPathM_setPathM_same {H : Hash} {src : Src} {m v : MNode} {n v' : Node} (e : Bool)
    (h : Mat H src m n) (hv : Mat H src v v') (p : List Bool) (m' : MNode)
    (hm : setPathM H src e m p v = some m') :
    ∃ w, getPathM src m' p = some w ∧ Mat H src w v' := by
  obtain ⟨n', hn, hmn⟩ := (setPathM_rel e h hv p).exists_right hm
  exact (getPathM_rel hmn p).exists_left (getPath_setPath_same H e n p v' n' hn)

/-- what a node asks the source when a child is wanted: a virtual node asks by its root -/
def ask : MNode → List (List Bool × Chunk)
  | .virt c => [([], c)]
  | _ => []

theorem mem_ask {m : MNode} {e : List Bool × Chunk} (h : e ∈ ask m) : e = ([], e.2) ∧ m = .virt e.2 := by
  cases m with
  | virt c => cases List.mem_singleton.mp h; exact ⟨rfl, rfl⟩
  | _ => cases h

/-- one step of a logged navigation: the node asks (if it is virtual), then the child goes on one level down -/
theorem getPathLog_cons (src : Src) (m : MNode) (b : Bool) (bs : List Bool) :
    getPathLog src m (b :: bs) =
      match childM src b m with
      | none => (none, ask m)
      | some ch =>
        ((getPathLog src ch bs).1, ask m ++ (getPathLog src ch bs).2.map fun e => (b :: e.1, e.2)) := by
  cases m with
  | leaf c => rfl
  | pair l r => cases b <;> rfl
  | virt c => simp only [getPathLog, childM]; cases src c <;> rfl

theorem getPathLog_fst (src : Src) (m : MNode) (p : List Bool) :
    (getPathLog src m p).1 = getPathM src m p := by
  induction p generalizing m with
  | nil => rfl
  | cons b bs ih =>
    rw [getPathLog_cons, getPathM_cons]
    cases childM src b m with
    | none => rfl
    | some ch => exact ih ch

/-- the positions above the target of a path (its proper prefixes), from the top -/
def above : List Bool → List (List Bool)
  | [] => []
  | b :: bs => [] :: (above bs).map (b :: ·)

theorem length_above (p : List Bool) : (above p).length = p.length := by
  induction p with
  | nil => rfl
  | cons b bs ih => simp [above, ih]

theorem nodup_above (p : List Bool) : (above p).Nodup := by
  induction p with
  | nil => exact List.nodup_nil
  | cons b bs ih =>
    refine List.nodup_cons.mpr ⟨fun h => ?_, ?_⟩
    · obtain ⟨q, _, hq⟩ := List.mem_map.mp h
      cases hq
    · rw [List.Nodup, List.pairwise_map]
      exact ih.imp fun h e => h (List.cons.inj e).2

/-- the nodes asked are nodes above the target, each at most once, from the top down -/
theorem getPathLog_sublist (src : Src) (m : MNode) (p : List Bool) :
    ((getPathLog src m p).2.map (·.1)).Sublist (above p) := by
  induction p generalizing m with
  | nil => exact .slnil
  | cons b bs ih =>
    have hask : ((ask m).map (·.1)).Sublist [[]] := by
      cases m with
      | virt c => exact .refl _
      | _ => exact List.nil_sublist _
    rw [getPathLog_cons]
    cases childM src b m with
    | none => exact hask.trans (.cons_cons _ (List.nil_sublist _))
    | some ch =>
      have := hask.append ((ih ch).map (b :: ·))
      rw [List.map_map] at this
      rw [List.map_append, List.map_map]
      exact this

/-- every query is made for a node on the path (strictly above the target): the virtual node at that
    position, asked by its root -/
theorem getPathLog_nodes (src : Src) (m : MNode) (p : List Bool) :
    ∀ e ∈ (getPathLog src m p).2,
      e.1 <+: p ∧ e.1.length < p.length ∧ getPathM src m e.1 = some (.virt e.2) := by
  induction p generalizing m with
  | nil => intro e he; cases he
  | cons b bs ih =>
    have hask : ∀ e ∈ ask m, e.1 <+: b :: bs ∧ e.1.length < (b :: bs).length ∧
        getPathM src m e.1 = some (.virt e.2) := by
      intro e he
      obtain ⟨h1, h2⟩ := mem_ask he
      rw [h1, h2]
      exact ⟨List.nil_prefix, Nat.succ_pos _, rfl⟩
    intro e he
    rw [getPathLog_cons] at he
    cases hch : childM src b m with
    | none => rw [hch] at he; exact hask e he
    | some ch =>
      rw [hch] at he
      rcases List.mem_append.mp he with he | he
      · exact hask e he
      · obtain ⟨e', he', rfl⟩ := List.mem_map.mp he
        obtain ⟨h1, h2, h3⟩ := ih ch e' he'
        refine ⟨List.cons_prefix_cons.mpr ⟨rfl, h1⟩, Nat.succ_lt_succ h2, ?_⟩
        rw [getPathM_cons, hch]
        exact h3

theorem childM_congr {src src' : Src} {m : MNode} (h : ∀ e ∈ ask m, src' e.2 = src e.2) (b : Bool) :
    childM src' b m = childM src b m := by
  cases m with
  | virt c => unfold childM; simp only [h ([], c) (List.mem_singleton.mpr rfl)]
  | _ => rfl

/-- the answers are functions of the root only: a source that agrees with `src` on the roots of the
    nodes asked along the path gives the same navigation (result and queries) -/
theorem getPathLog_congr (src src' : Src) (m : MNode) (p : List Bool)
    (h : ∀ e ∈ (getPathLog src m p).2, src' e.2 = src e.2) :
    getPathLog src' m p = getPathLog src m p := by
  induction p generalizing m with
  | nil => rfl
  | cons b bs ih =>
    rw [getPathLog_cons] at h
    rw [getPathLog_cons, getPathLog_cons]
    cases hch : childM src b m with
    | none =>
      rw [hch] at h
      rw [childM_congr h b, hch]
    | some ch =>
      rw [hch] at h
      rw [childM_congr (fun e he => h e (List.mem_append_left _ he)) b, hch]
      simp only
      rw [ih ch fun e he => h (b :: e.1, e.2) (List.mem_append_right _ (List.mem_map.mpr ⟨e, he, rfl⟩))]

theorem getPathM_congr (src src' : Src) (m : MNode) (p : List Bool)
    (h : ∀ e ∈ (getPathLog src m p).2, src' e.2 = src e.2) :
    getPathM src' m p = getPathM src m p := by
  rw [← getPathLog_fst, ← getPathLog_fst, getPathLog_congr src src' m p h]

/-- a memo table keyed by roots -/
abbrev Table := List (Chunk × Option (Chunk × Chunk))

/-- the source seen through a memo table: a memoised answer is used instead of asking -/
def memoSrc (src : Src) (tbl : Table) : Src := fun c =>
  match tbl.lookup c with
  | some a => a
  | none => src c

def TableOk (src : Src) (tbl : Table) : Prop := ∀ c a, tbl.lookup c = some a → src c = a

theorem memoSrc_eq {src : Src} {tbl : Table} (h : TableOk src tbl) : memoSrc src tbl = src := by
  funext c
  unfold memoSrc
  cases hl : tbl.lookup c with
  | none => rfl
  | some a => exact (h c a hl).symm

theorem tableOk_cons {src : Src} {tbl : Table} (h : TableOk src tbl) (c : Chunk) :
    TableOk src ((c, src c) :: tbl) := by
  intro c' a hl
  rw [List.lookup_cons] at hl
  cases hb : c' == c with
  | true => rw [hb] at hl; cases eq_of_beq hb; exact Option.some.inj hl
  | false => rw [hb] at hl; exact h c' a hl

theorem tableOk_nil (src : Src) : TableOk src [] := by intro c a h; simp at h

@[simp] theorem bind_fst {α β} (f : Step α) (g : α → Step β) (m : Memo) :
    (f.bind g m).1 = (g (f m).1 (f m).2.1).1 := rfl
@[simp] theorem bind_memo {α β} (f : Step α) (g : α → Step β) (m : Memo) :
    (f.bind g m).2.1 = (g (f m).1 (f m).2.1).2.1 := rfl
@[simp] theorem bind_log {α β} (f : Step α) (g : α → Step β) (m : Memo) :
    (f.bind g m).2.2 = (f m).2.2 ++ (g (f m).1 (f m).2.1).2.2 := rfl

@[simp] theorem answered_nil : answered [] = [] := rfl
@[simp] theorem answered_append (l1 l2 : List Query) :
    answered (l1 ++ l2) = answered l1 ++ answered l2 := by simp [answered]
theorem answered_under (b : Bool) (log : List Query) :
    answered (log.map (Query.under b)) = (answered log).map fun e => (b :: e.1, e.2) := by
  induction log with
  | nil => rfl
  | cons q qs ih =>
    cases hq : q.ok <;> simp_all [answered, Query.under]

theorem isCell_eq (m : Memo) : m.isCell = m.rootOf.isSome := by cases m <;> rfl

/-- the memo in child slot `b` and its replacement: the `if b then r else l` that `Step.focus` spells out -/
def slot (b : Bool) : Memo → Memo
  | .unk => .unk
  | .cell _ _ l r => if b then r else l

def setSlot (b : Bool) (s : Memo) : Memo → Memo
  | .unk => .unk
  | .cell c il l r => if b then .cell c il l s else .cell c il s r

theorem slot_setSlot (b : Bool) (s : Memo) (c : Chunk) (il : Option Bool) (l r : Memo) :
    slot b (setSlot b s (.cell c il l r)) = s := by
  cases b <;> rfl

theorem setSlot_setSlot (b : Bool) (s t : Memo) (m : Memo) :
    setSlot b t (setSlot b s m) = setSlot b t m := by
  cases m with
  | unk => rfl
  | cell c il l r => cases b <;> rfl

theorem has_unk (pos : List Bool) (k : Kind) : Memo.unk.has pos k = false := by
  cases pos <;> cases k <;> rfl

theorem has_cons (m : Memo) (b : Bool) (q : List Bool) (k : Kind) :
    m.has (b :: q) k = (slot b m).has q k := by
  cases m with
  | unk => exact (has_unk q k).symm
  | cell c il l r => cases k <;> rfl

theorem has_nil_ofDir (m : Memo) (b : Bool) : m.has [] (Kind.ofDir b) = (slot b m).isCell := by
  cases m with
  | unk => rfl
  | cell c il l r => cases b <;> rfl

/-- a memo slot replaced by a memo that knows at least as much: nothing is forgotten -/
theorem has_setSlot {m s : Memo} {b : Bool} (hc : (slot b m).isCell = true → s.isCell = true)
    (hh : ∀ q k, (slot b m).has q k = true → s.has q k = true) (pos : List Bool) (k : Kind)
    (h : m.has pos k = true) : (setSlot b s m).has pos k = true := by
  cases m with
  | unk => exact h
  | cell c il l r =>
    cases b
    all_goals
      cases pos with
      | nil => cases k <;> first | exact h | exact hc h
      | cons b' q =>
        rw [has_cons] at h ⊢
        cases b' <;> first | exact h | exact hh q k h

/-- a well-behaved memoising run from node object `m` with outcome `r`: it asked the source only what
    was not memoised, memoised every answer, forgot nothing, and kept the node object.  `nodup` is
    the at-most-once claim; across a `bind` it holds because what the first run `kept` cannot be
    `fresh` for the second -/
structure GoodRun {α} (m : Memo) (r : α × Memo × List Query) : Prop where
  fresh : ∀ pos k, (pos, k) ∈ answered r.2.2 → m.has pos k = false
  kept : ∀ pos k, (pos, k) ∈ answered r.2.2 → r.2.1.has pos k = true
  mono : ∀ pos k, m.has pos k = true → r.2.1.has pos k = true
  nodup : (answered r.2.2).Nodup
  root : r.2.1.rootOf = m.rootOf

def Good {α} (f : Step α) : Prop := ∀ m, GoodRun m (f m)

/-- a run that gets no answer from the source and leaves the node object as it was -/
theorem GoodRun.silent {α} {m : Memo} {r : α × Memo × List Query} (h1 : r.2.1 = m)
    (h2 : answered r.2.2 = []) : GoodRun m r := by
  subst h1
  constructor
  · rw [h2]; exact fun _ _ h => nomatch h
  · rw [h2]; exact fun _ _ h => nomatch h
  · exact fun _ _ h => h
  · rw [h2]; exact List.nodup_nil
  · rfl

theorem Good.pure {α} (a : α) : Good (Step.pure a) := fun _ => .silent rfl rfl

theorem Good.bind {α β} {f : Step α} {g : α → Step β} (hf : Good f) (hg : ∀ a, Good (g a)) :
    Good (f.bind g) := fun m =>
  have h1 := hf m
  have h2 := hg (f m).1 (f m).2.1
  { fresh := fun pos k h => by
      simp only [bind_log, answered_append, List.mem_append] at h
      rcases h with h | h
      · exact h1.fresh pos k h
      · cases hm : m.has pos k with
        | false => rfl
        | true => exact (h1.mono pos k hm).symm.trans (h2.fresh pos k h)
    kept := fun pos k h => by
      simp only [bind_log, answered_append, List.mem_append] at h
      rcases h with h | h
      · exact h2.mono pos k (h1.kept pos k h)
      · exact h2.kept pos k h
    mono := fun pos k h => h2.mono pos k (h1.mono pos k h)
    nodup := by
      simp only [bind_log, answered_append]
      refine List.nodup_append.mpr ⟨h1.nodup, h2.nodup, ?_⟩
      intro a ha b hb hab
      subst hab
      exact absurd ((h1.kept a.1 a.2 ha).symm.trans (h2.fresh a.1 a.2 hb)) (by decide)
    root := h2.root.trans h1.root }

theorem Good.ite {α} {c : Prop} [Decidable c] {f g : Step α} (hf : Good f) (hg : Good g) :
    Good (if c then f else g) := by split <;> assumption

theorem nodup_under (b : Bool) (l : List (List Bool × Kind)) (h : l.Nodup) :
    (l.map fun e => (b :: e.1, e.2)).Nodup := by
  rw [List.Nodup, List.pairwise_map]
  exact h.imp (by
    intro x y hxy heq
    apply hxy
    simp only [Prod.mk.injEq, List.cons.injEq, true_and] at heq
    exact Prod.ext heq.1 heq.2)

/-- a good run on the node object in slot `b` of `m`, seen from `m` -/
theorem GoodRun.under {α} {s : Memo} {r : α × Memo × List Query} (h : GoodRun s r) {b : Bool}
    {c : Chunk} {il : Option Bool} {l r0 : Memo} (hs : slot b (.cell c il l r0) = s) :
    GoodRun (.cell c il l r0) (r.1, setSlot b r.2.1 (.cell c il l r0), r.2.2.map (Query.under b)) := by
  subst hs
  refine ⟨?_, ?_, ?_, ?_, ?_⟩
  · intro pos k hk
    rw [answered_under, List.mem_map] at hk
    obtain ⟨e, he, heq⟩ := hk
    cases heq
    rw [has_cons]
    exact h.fresh e.1 e.2 he
  · intro pos k hk
    rw [answered_under, List.mem_map] at hk
    obtain ⟨e, he, heq⟩ := hk
    cases heq
    rw [has_cons, slot_setSlot]
    exact h.kept e.1 e.2 he
  · -- the slot still holds a node object (same root), which forgot nothing
    exact has_setSlot (fun hc => by rw [isCell_eq, h.root, ← isCell_eq]; exact hc) h.mono
  · rw [answered_under]
    exact nodup_under b _ h.nodup
  · cases b <;> rfl

theorem focus_eq {α} (b : Bool) (d : α) (f : Step α) (m : Memo) :
    Step.focus b d f m =
      match slot b m with
      | .unk => (d, m, [])
      | s => ((f s).1, setSlot b (f s).2.1 m, (f s).2.2.map (Query.under b)) := by
  cases m with
  | unk => rfl
  | cell c il l r => cases b <;> rfl

theorem Good.focus {α} {f : Step α} (hf : Good f) (b : Bool) (d : α) : Good (Step.focus b d f) := by
  intro m
  cases m with
  | unk => exact .silent rfl rfl
  | cell c il l r =>
    rw [focus_eq]
    cases hs : slot b (.cell c il l r) with
    | unk => exact .silent rfl rfl
    | cell c' il' l' r' => exact (hf _).under hs

theorem good_cellIsLeaf (src : Src) : Good (cellIsLeaf src) := by
  intro m
  cases m with
  | unk => exact .silent rfl rfl
  | cell c il l r =>
    cases il with
    | some a => exact .silent rfl rfl
    | none =>
      refine ⟨?_, ?_, ?_, ?_, rfl⟩
      · intro pos k h; simp [cellIsLeaf, answered] at h; obtain ⟨rfl, rfl⟩ := h; rfl
      · intro pos k h; simp [cellIsLeaf, answered] at h; obtain ⟨rfl, rfl⟩ := h; rfl
      · intro pos k h
        cases pos with
        | nil => cases k <;> first | exact h | rfl
        | cons b q => exact h
      · exact List.pairwise_singleton _ _

theorem cellFetch_cell (src : Src) (b : Bool) (c : Chunk) (il : Option Bool) (l r : Memo) :
    cellFetch src b (.cell c il l r) =
      match slot b (.cell c il l r) with
      | .cell .. => (true, .cell c il l r, [])
      | .unk =>
        if il = some true then (false, .cell c il l r, [])
        else match src c with
          | none => (false, .cell c il l r, [⟨[], Kind.ofDir b, false⟩])
          | some (lc, rc) =>
            (true, setSlot b (.fresh (if b then rc else lc)) (.cell c il l r), [⟨[], Kind.ofDir b, true⟩]) := by
  cases b <;> rfl

theorem good_cellFetch (src : Src) (b : Bool) : Good (cellFetch src b) := by
  intro m
  cases m with
  | unk => exact .silent rfl rfl
  | cell c il l r =>
    rw [cellFetch_cell]
    cases hs : slot b (.cell c il l r) with
    | cell c' il' l' r' => exact .silent rfl rfl
    | unk =>
      dsimp only
      split
      · exact .silent rfl rfl
      · cases src c with
        | none => exact .silent rfl rfl
        | some a =>
          -- the one query is for the empty slot `b`, which is filled; the other slots are untouched
          have hq {pos k} (h : (pos, k) ∈ answered [⟨[], Kind.ofDir b, true⟩]) :
              pos = [] ∧ k = Kind.ofDir b := Prod.mk.inj (List.mem_singleton.mp h)
          refine ⟨?_, ?_, ?_, List.pairwise_singleton _ _, ?_⟩
          · intro pos k h
            obtain ⟨rfl, rfl⟩ := hq h
            rw [has_nil_ofDir, hs]
            rfl
          · intro pos k h
            obtain ⟨rfl, rfl⟩ := hq h
            rw [has_nil_ofDir, slot_setSlot]
            rfl
          · refine has_setSlot ?_ ?_ <;> rw [hs]
            · exact fun h => nomatch h
            · intro q k h; rw [has_unk] at h; cases h
          · cases b <;> rfl

theorem good_navMemo (src : Src) (p : List Bool) : Good (navMemo src p) := by
  induction p with
  | nil => exact fun _ => .silent rfl rfl
  | cons b bs ih =>
    exact (good_cellFetch src b).bind fun _ => Good.ite (ih.focus b none) (Good.pure none)

theorem good_setQueriesMemo (H : Hash) (src : Src) (e : Bool) :
    ∀ p : List Bool, Good (setQueriesMemo H src e p)
  | [] => Good.pure true
  | [b] => good_cellFetch src (!b)
  | b :: b' :: bs =>
    (good_cellFetch src b).bind fun _ =>
      Good.ite (Good.pure false) <|
        ((good_cellIsLeaf src).focus b true).bind fun _ =>
          Good.ite
            ((((good_navMemo src []).focus b none)).bind fun _ =>
              Good.ite (good_cellFetch src (!b)) (Good.pure false))
            (((good_setQueriesMemo H src e (b' :: bs)).focus b false).bind fun _ =>
              Good.ite (good_cellFetch src (!b)) (Good.pure false))

theorem good_runNavs (src : Src) (ps : List (List Bool)) : Good (runNavs src ps) := by
  induction ps with
  | nil => exact Good.pure []
  | cons p ps ih =>
    exact (good_navMemo src p).bind fun a => ih.bind fun as => Good.pure (a :: as)

/-- a sequence of navigations on one virtual node object (memo state `m` threaded through): every
    (node object, method) is answered by the source at most once, and never when the answer was
    already memoised before the sequence started -/
theorem runNavs_at_most_once (src : Src) (ps : List (List Bool)) (m : Memo) :
    (answered (runNavs src ps m).2.2).Nodup ∧
    ∀ pos k, (pos, k) ∈ answered (runNavs src ps m).2.2 → m.has pos k = false :=
  ⟨(good_runNavs src ps m).nodup, (good_runNavs src ps m).fresh⟩

/-- the same for the queries of a write (`setter` and the call of its link), which also uses the
    `is_leaf()` memo -/
theorem setQueries_at_most_once (H : Hash) (src : Src) (e : Bool) (p : List Bool) (m : Memo) :
    (answered (setQueriesMemo H src e p m).2.2).Nodup ∧
    ∀ pos k, (pos, k) ∈ answered (setQueriesMemo H src e p m).2.2 → m.has pos k = false :=
  ⟨(good_setQueriesMemo H src e p m).nodup, (good_setQueriesMemo H src e p m).fresh⟩

theorem ok_fresh (src : Src) (c : Chunk) : Memo.Ok src (.fresh c) := by
  simp [Memo.fresh, Memo.Ok, Memo.rootOf]

theorem cell_of_rootOf {m : Memo} {c : Chunk} (h : m.rootOf = some c) :
    ∃ il l r, m = .cell c il l r := by
  cases m with
  | unk => simp [Memo.rootOf] at h
  | cell c0 il l r => simp [Memo.rootOf] at h; subst h; exact ⟨il, l, r, rfl⟩

/-- a step into a child whose node object is memoised: the rest runs on that object -/
theorem navMemo_known (src : Src) (b : Bool) (bs : List Bool) {m : Memo}
    {c' : Chunk} {il' : Option Bool} {l' r' : Memo} (hs : slot b m = .cell c' il' l' r') :
    navMemo src (b :: bs) m =
      ((navMemo src bs (.cell c' il' l' r')).1,
       setSlot b (navMemo src bs (.cell c' il' l' r')).2.1 m,
       (navMemo src bs (.cell c' il' l' r')).2.2.map (Query.under b)) := by
  cases m with
  | unk => cases hs
  | cell c il l r =>
    cases b <;> simp only [slot, Bool.false_eq_true, if_false, if_true] at hs <;> subst hs <;>
      simp [navMemo, cellFetch, Step.bind, Step.focus, setSlot]

/-- a step into a child not memoised yet, answered by the source: the rest runs on a fresh node object -/
theorem navMemo_fetched (src : Src) (b : Bool) (bs : List Bool) {c : Chunk} {il : Option Bool}
    {l r : Memo} {a : Chunk × Chunk} (hs : slot b (.cell c il l r) = .unk) (h1 : ¬ il = some true)
    (hsrc : src c = some a) :
    navMemo src (b :: bs) (.cell c il l r) =
      ((navMemo src bs (.fresh (if b then a.2 else a.1))).1,
       setSlot b (navMemo src bs (.fresh (if b then a.2 else a.1))).2.1 (.cell c il l r),
       ⟨[], Kind.ofDir b, true⟩ ::
         (navMemo src bs (.fresh (if b then a.2 else a.1))).2.2.map (Query.under b)) := by
  cases b <;> simp only [slot, Bool.false_eq_true, if_false, if_true] at hs <;> subst hs <;>
    simp [navMemo, cellFetch, Step.bind, Step.focus, h1, hsrc, Memo.fresh, Kind.ofDir, setSlot]

/-- a step into a child not memoised yet that the node knows, or the source says, is not there -/
theorem navMemo_refused (src : Src) (b : Bool) (bs : List Bool) {c : Chunk} {il : Option Bool}
    {l r : Memo} (hs : slot b (.cell c il l r) = .unk) (h : il = some true ∨ src c = none) :
    (navMemo src (b :: bs) (.cell c il l r)).1 = none ∧
    (navMemo src (b :: bs) (.cell c il l r)).2.1 = .cell c il l r := by
  have hs' : (if b then r else l) = Memo.unk := hs
  by_cases h1 : il = some true
  · simp [navMemo, cellFetch, Step.bind, Step.pure, hs', h1]
  · simp [navMemo, cellFetch, Step.bind, Step.pure, hs', h1, h.resolve_left h1]

theorem childM_virt {src : Src} {c : Chunk} {a : Chunk × Chunk} (h : src c = some a) (b : Bool) :
    childM src b (.virt c) = some (.virt (if b then a.2 else a.1)) := by
  unfold childM; simp only [h]

theorem ok_slot {src : Src} {c : Chunk} {il : Option Bool} {l r : Memo}
    (h : Memo.Ok src (.cell c il l r)) (b : Bool) :
    Memo.Ok src (slot b (.cell c il l r)) ∧
    ∀ x, (slot b (.cell c il l r)).rootOf = some x →
      ∃ a, src c = some a ∧ (if b then a.2 else a.1) = x := by
  obtain ⟨_, hl, hr, hokl, hokr⟩ := h
  cases b
  · exact ⟨hokl, fun x hx => (hl x hx).elim fun cr e => ⟨_, e, rfl⟩⟩
  · exact ⟨hokr, fun x hx => (hr x hx).elim fun cl e => ⟨_, e, rfl⟩⟩

theorem ok_setSlot {src : Src} {c : Chunk} {il : Option Bool} {l r s : Memo} {b : Bool}
    (h : Memo.Ok src (.cell c il l r)) (hs : Memo.Ok src s)
    (hroot : ∀ x, s.rootOf = some x → ∃ a, src c = some a ∧ (if b then a.2 else a.1) = x) :
    Memo.Ok src (setSlot b s (.cell c il l r)) := by
  obtain ⟨hil, hl, hr, hokl, hokr⟩ := h
  cases b
  · exact ⟨hil, fun x hx => (hroot x hx).elim fun a e => ⟨a.2, e.2 ▸ e.1⟩, hr, hs, hokr⟩
  · exact ⟨hil, hl, fun x hx => (hroot x hx).elim fun a e => ⟨a.1, e.2 ▸ e.1⟩, hokl, hs⟩

/-- a memoised navigation from a node object whose memo agrees with the source returns what the
    unmemoised navigation from a fresh virtual node with the same root returns, and the memo still agrees
    with the source afterwards -/
theorem navMemo_sound (src : Src) (p : List Bool) :
    ∀ (m : Memo) (c : Chunk), Memo.Ok src m → m.rootOf = some c →
      (navMemo src p m).1.map MNode.virt = getPathM src (.virt c) p ∧
      Memo.Ok src (navMemo src p m).2.1 := by
  induction p with
  | nil => intro m c hok hc; simp [navMemo, hc, getPathM, hok]
  | cons b bs ih =>
    intro m c hok hc
    obtain ⟨il, l, r, rfl⟩ := cell_of_rootOf hc
    obtain ⟨hoks, hroots⟩ := ok_slot hok b
    rw [getPathM_cons]
    cases hs : slot b (.cell c il l r) with
    | cell c' il' l' r' =>
      rw [hs] at hoks hroots
      obtain ⟨a, hsrc, ha⟩ := hroots c' rfl
      obtain ⟨h1, h2⟩ := ih _ c' hoks rfl
      rw [navMemo_known src b bs hs, childM_virt hsrc, ha]
      refine ⟨h1, ok_setSlot hok h2 fun x hx => ?_⟩
      rw [(good_navMemo src bs _).root] at hx
      exact hroots x hx
    | unk =>
      have hfail (h : il = some true ∨ src c = none) (hsrc : src c = none) :
          (navMemo src (b :: bs) (.cell c il l r)).1.map MNode.virt =
            (childM src b (.virt c)).bind (getPathM src · bs) ∧
          Memo.Ok src (navMemo src (b :: bs) (.cell c il l r)).2.1 := by
        obtain ⟨e1, e2⟩ := navMemo_refused src b bs hs h
        rw [e1, e2]
        unfold childM; simp only [hsrc]
        exact ⟨rfl, hok⟩
      by_cases h1 : il = some true
      · exact hfail (.inl h1) (by simpa using (hok.1 true h1).symm)
      · cases hsrc : src c with
        | none => exact hfail (.inr hsrc) hsrc
        | some a =>
          obtain ⟨h2, h3⟩ := ih (.fresh (if b then a.2 else a.1)) _ (ok_fresh src _) rfl
          rw [navMemo_fetched src b bs hs h1 hsrc, childM_virt hsrc]
          refine ⟨h2, ok_setSlot hok h3 fun x hx => ?_⟩
          rw [(good_navMemo src bs _).root] at hx
          exact ⟨a, hsrc, Option.some.inj hx⟩

/-- a successful navigation, repeated on the same node object, asks the source nothing, changes
    nothing and returns the same node -/
theorem navMemo_again (src : Src) (p : List Bool) :
    ∀ (m : Memo) (x : Chunk), (navMemo src p m).1 = some x →
      navMemo src p (navMemo src p m).2.1 = (some x, (navMemo src p m).2.1, []) := by
  induction p with
  | nil => intro m x h; simp [navMemo] at h ⊢; exact h
  | cons b bs ih =>
    intro m x h
    cases m with
    | unk => simp [navMemo, cellFetch, Step.bind, Step.pure] at h
    | cell c il l r =>
      -- after a successful step the slot holds the node object the rest was run on
      have again (s : Memo) (c' : Chunk) (hc' : s.rootOf = some c')
          (hx : (navMemo src bs s).1 = some x) :
          navMemo src (b :: bs) (setSlot b (navMemo src bs s).2.1 (.cell c il l r)) =
            (some x, setSlot b (navMemo src bs s).2.1 (.cell c il l r), []) := by
        obtain ⟨il2, l2, r2, h2⟩ :=
          cell_of_rootOf ((good_navMemo src bs s).root.trans hc')
        have := ih s x hx
        rw [h2] at this ⊢
        rw [navMemo_known src b bs (slot_setSlot b _ c il l r), this, setSlot_setSlot]
        rfl
      cases hs : slot b (.cell c il l r) with
      | cell c' il' l' r' =>
        rw [navMemo_known src b bs hs] at h ⊢
        exact again _ c' rfl h
      | unk =>
        by_cases h1 : il = some true
        · rw [(navMemo_refused src b bs hs (.inl h1)).1] at h; cases h
        · cases hsrc : src c with
          | none => rw [(navMemo_refused src b bs hs (.inr hsrc)).1] at h; cases h
          | some a =>
            rw [navMemo_fetched src b bs hs h1 hsrc] at h ⊢
            exact again _ _ rfl h

/-- results of a whole sequence of memoised navigations: each is what the unmemoised navigation from
    a fresh virtual node gives -/
theorem runNavs_sound (src : Src) (ps : List (List Bool)) :
    ∀ (m : Memo) (c : Chunk), Memo.Ok src m → m.rootOf = some c →
      (runNavs src ps m).1.map (·.map MNode.virt) = ps.map (getPathM src (.virt c)) ∧
      Memo.Ok src (runNavs src ps m).2.1 := by
  induction ps with
  | nil => intro m c hok _; simpa [runNavs, Step.pure] using hok
  | cons p ps ih =>
    intro m c hok hc
    obtain ⟨h1, h2⟩ := navMemo_sound src p m c hok hc
    have hroot : (navMemo src p m).2.1.rootOf = some c := by rw [(good_navMemo src p m).root]; exact hc
    obtain ⟨h3, h4⟩ := ih _ c h2 hroot
    refine ⟨?_, ?_⟩
    · simp only [runNavs, bind_fst, Step.pure, List.map_cons, h1]
      rw [h3]
    · simpa [runNavs, Step.pure] using h4

/-- end to end: memoised navigation over a source serving the tree `n`, starting from a fresh
    `VirtualNode(n.root, src)`, reaches a node exactly when navigation in `n` does, and returns its root -/
theorem navMemo_serves {H : Hash} {src : Src} {n : Node} (h : Serves H src n) (p : List Bool) :
    (navMemo src p (.fresh (n.root H))).1 = (getPath n p).map (·.root H) := by
  have h1 := (navMemo_sound src p (.fresh (n.root H)) (n.root H) (ok_fresh src _) rfl).1
  have h2 := getPathM_root (mat_virt h) p
  rw [← h1] at h2
  rw [← h2]
  cases (navMemo src p (.fresh (n.root H))).1 <;> simp [MNode.root]

private def H1 : Hash := fun a b => 255 :: (a ++ b)
/-- left: two chunks; right: the zero summary of height 1 -/
private def t0 : Node := .pair (.pair (.leaf [1]) (.leaf [2])) (zeroNode H1 1)
private def src0 : Src := srcOfDict (dictOf H1 t0)
private def v0 : MNode := .virt (t0.root H1)

example : Serves H1 src0 t0 := by decide +kernel
example : Mat H1 src0 v0 t0 := by decide +kernel
-- a half materialised tree is related, too
example : Mat H1 src0 (.pair (.virt (H1 [1] [2])) (.leaf (zeroHash H1 1))) t0 := by decide +kernel
-- navigation: same nodes, same errors
example : getPathM src0 v0 [false, true] = some (.virt [2]) ∧
    getPath t0 [false, true] = some (.leaf [2]) := by decide +kernel
example : getPathM src0 v0 [false, true, false] = none ∧ getPath t0 [false, true, false] = none := by
  decide +kernel
-- a write below the virtual zero summary expands it; the left sibling stays virtual
example : setPathM H1 src0 true v0 [true, false] (.leaf [9]) =
    some (.pair (.virt (H1 [1] [2])) (.pair (.leaf [9]) (.leaf (zeroHash H1 0)))) := by decide +kernel
example : (setPathM H1 src0 true v0 [true, false] (.leaf [9])).map (·.root H1) =
    (setPath H1 true t0 [true, false] (.leaf [9])).map (·.root H1) := by decide +kernel
-- a virtual leaf that is not the zero summary is not expanded; without `expand` nothing is
example : setPathM H1 src0 true v0 [false, true, false] (.leaf [9]) = none ∧
    setPathM H1 src0 false v0 [true, false] (.leaf [9]) = none := by decide +kernel
-- the corner: a top-level virtual zero summary (`RebindableNode.setter` does not expand it)
example : setPathMTop H1 src0 true (.virt (zeroHash H1 1)) [false] (.leaf [9]) = none ∧
    (setPathM H1 src0 true (.virt (zeroHash H1 1)) [false] (.leaf [9])).isSome := by decide +kernel
-- one navigation: the nodes asked
example : (getPathLog src0 v0 [false, true]).2 = [([], t0.root H1), ([false], H1 [1] [2])] := by
  decide +kernel
-- three navigations on one node object: three source queries in all, the third navigation asks nothing
example : answered (runNavs src0 [[false, true], [false, false], [false, true]] (.fresh (t0.root H1))).2.2
    = [([], .left), ([false], .right), ([false], .left)] := by decide +kernel
example : (runNavs src0 [[false, true], [false, false], [false, true]] (.fresh (t0.root H1))).1
    = [some [2], some [1], some [2]] := by decide +kernel
-- an unanswered query (children of a leaf key) leaves no trace in the node object and is repeated
example : (runNavs src0 [[false, true, false], [false, true, false]] (.fresh (t0.root H1))).2.2 =
    [⟨[], .left, true⟩, ⟨[false], .right, true⟩, ⟨[false, true], .left, false⟩,
     ⟨[false, true], .left, false⟩] := by decide +kernel
-- the queries of a write: children, `is_leaf()`, siblings; a second write asks nothing new
example : answered (setQueriesMemo H1 src0 true [false, true] (.fresh (t0.root H1))).2.2 =
    [([], .left), ([false], .isLeaf), ([false], .left), ([], .right)] := by decide +kernel
example : answered ((setQueriesMemo H1 src0 true [false, true]).bind
      (fun _ => setQueriesMemo H1 src0 true [false, true]) (.fresh (t0.root H1))).2.2 =
    [([], .left), ([false], .isLeaf), ([false], .left), ([], .right)] := by decide +kernel

end Rmk.VirtualLaws
