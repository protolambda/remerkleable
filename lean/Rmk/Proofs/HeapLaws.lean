/-
Laws of the heap layer (Rmk/Impl/Heap.lean): refinement of the pure `setPath`, persistence
(C06), sharing and hashing cost (C19).  Everything is generic in the pair hash `H`.
-/
import Rmk.Impl.Heap
import Rmk.Proofs.TreeLaws
namespace Rmk.HeapLaws
open Rmk Rmk.Heap

/-- A fuel-recursive function `F fuel address state` whose value at `a` is determined by its values
    at the addresses below `a` does not depend on the fuel once this exceeds `a`. -/
theorem fuel_irrelevant {σ β : Type} (F : Nat → Nat → σ → β)
    (step : ∀ f g a, (∀ x s, x < a → F f x s = F g x s) → ∀ s, F (f + 1) a s = F (g + 1) a s) :
    ∀ f g a s, a < f → a < g → F f a s = F g a s := by
  intro f
  induction f with
  | zero => intro g a s hf; exact absurd hf (Nat.not_lt_zero _)
  | succ f ih =>
    intro g a s hf hg
    cases g with
    | zero => exact absurd hg (Nat.not_lt_zero _)
    | succ g =>
      refine step f g a (fun x s hx => ih g x s ?_ ?_) s
      · exact Nat.lt_of_lt_of_le hx (Nat.le_of_lt_succ hf)
      · exact Nat.lt_of_lt_of_le hx (Nat.le_of_lt_succ hg)

theorem denoteF_fuel (h : Heap) {f a : Nat} (hf : a < f) : denoteF h f a = denote h a := by
  refine fuel_irrelevant (fun f a (_ : Unit) => denoteF h f a) (fun f g a hx _ => ?_)
    f (a + 1) a () hf (Nat.lt_succ_self a)
  unfold denoteF
  rcases h.cells[a]? with _ | (c | ⟨l, r, k⟩)
  · rfl
  · rfl
  · exact ite_congr rfl (fun hlt => by rw [hx l () hlt.1, hx r () hlt.2]) (fun _ => rfl)

theorem denote_leaf {h : Heap} {a : Nat} {c : Chunk} (hc : h.cells[a]? = some (Cell.leaf c)) :
    denote h a = .leaf c := by
  unfold denote denoteF; rw [hc]

theorem denote_pair {h : Heap} {a l r : Nat} {k : Option Chunk}
    (hc : h.cells[a]? = some (Cell.pair l r k)) (hl : l < a) (hr : r < a) :
    denote h a = .pair (denote h l) (denote h r) := by
  rw [denote, denoteF, hc]
  dsimp only
  rw [if_pos ⟨hl, hr⟩, denoteF_fuel h hl, denoteF_fuel h hr]

theorem denote_bad {h : Heap} {a l r : Nat} {k : Option Chunk}
    (hc : h.cells[a]? = some (Cell.pair l r k)) (hb : ¬ (l < a ∧ r < a)) :
    denote h a = dangling := by
  unfold denote denoteF; rw [hc]
  exact if_neg hb

theorem merkleRootF_fuel (H : Hash) {f a : Nat} (hf : a < f) (h : Heap) :
    merkleRootF H f h a = merkleRoot H h a := by
  refine fuel_irrelevant (fun f a h => merkleRootF H f h a) (fun f g a hx h => ?_)
    f (a + 1) a h hf (Nat.lt_succ_self a)
  unfold merkleRootF
  rcases h.cells[a]? with _ | (c | ⟨l, r, (_ | c)⟩)
  · rfl
  · rfl
  · refine ite_congr rfl (fun hlt => ?_) (fun _ => rfl)
    dsimp only
    rw [hx l h hlt.1, hx r _ hlt.2]
  · rfl

theorem merkleRoot_leaf (H : Hash) {h : Heap} {a : Nat} {c : Chunk}
    (hc : h.cells[a]? = some (Cell.leaf c)) : merkleRoot H h a = (h, c) := by
  unfold merkleRoot merkleRootF; rw [hc]

theorem merkleRoot_cached (H : Hash) {h : Heap} {a l r : Nat} {c : Chunk}
    (hc : h.cells[a]? = some (Cell.pair l r (some c))) : merkleRoot H h a = (h, c) := by
  unfold merkleRoot merkleRootF; rw [hc]

theorem merkleRoot_none (H : Hash) {h : Heap} {a : Nat}
    (hc : h.cells[a]? = none) : merkleRoot H h a = (h, []) := by
  unfold merkleRoot merkleRootF; rw [hc]

theorem merkleRoot_bad (H : Hash) {h : Heap} {a l r : Nat}
    (hc : h.cells[a]? = some (Cell.pair l r none)) (hb : ¬ (l < a ∧ r < a)) :
    merkleRoot H h a = (h, []) := by
  unfold merkleRoot merkleRootF; rw [hc]
  exact if_neg hb

def fill (h : Heap) (a l r : Nat) (c : Chunk) : Heap :=
  { cells := h.cells.setIfInBounds a (.pair l r (some c)), hashCalls := h.hashCalls + 1 }

theorem merkleRoot_pair (H : Hash) {h : Heap} {a l r : Nat}
    (hc : h.cells[a]? = some (Cell.pair l r none)) (hl : l < a) (hr : r < a) :
    merkleRoot H h a =
      (fill (merkleRoot H (merkleRoot H h l).1 r).1 a l r
          (H (merkleRoot H h l).2 (merkleRoot H (merkleRoot H h l).1 r).2),
        H (merkleRoot H h l).2 (merkleRoot H (merkleRoot H h l).1 r).2) := by
  rw [merkleRoot, merkleRootF, hc]
  dsimp only
  rw [if_pos ⟨hl, hr⟩, merkleRootF_fuel H hl, merkleRootF_fuel H hr]
  rfl

theorem merkleRoot_induct (H : Hash) (P : Heap → Nat → Heap × Chunk → Prop)
    (hleaf : ∀ h a c, h.cells[a]? = some (Cell.leaf c) → P h a (h, c))
    (hcached : ∀ h a l r c, h.cells[a]? = some (Cell.pair l r (some c)) → P h a (h, c))
    (hnone : ∀ h a, h.cells[a]? = none → P h a (h, []))
    (hbad : ∀ h a l r, h.cells[a]? = some (Cell.pair l r none) → ¬ (l < a ∧ r < a) → P h a (h, []))
    (hpair : ∀ h a l r, h.cells[a]? = some (Cell.pair l r none) → l < a → r < a →
      P h l (merkleRoot H h l) → P (merkleRoot H h l).1 r (merkleRoot H (merkleRoot H h l).1 r) →
      P h a (fill (merkleRoot H (merkleRoot H h l).1 r).1 a l r
          (H (merkleRoot H h l).2 (merkleRoot H (merkleRoot H h l).1 r).2),
        H (merkleRoot H h l).2 (merkleRoot H (merkleRoot H h l).1 r).2)) :
    ∀ h a, P h a (merkleRoot H h a) := by
  intro h a
  induction a using Nat.strongRecOn generalizing h with
  | ind a ih =>
    rcases hc : h.cells[a]? with _ | (c | ⟨l, r, (_ | c)⟩)
    · rw [merkleRoot_none H hc]; exact hnone h a hc
    · rw [merkleRoot_leaf H hc]; exact hleaf h a c hc
    · by_cases hlt : l < a ∧ r < a
      · rw [merkleRoot_pair H hc hlt.1 hlt.2]
        exact hpair h a l r hc hlt.1 hlt.2 (ih l hlt.1 h) (ih r hlt.2 _)
      · rw [merkleRoot_bad H hc hlt]; exact hbad h a l r hc hlt
    · rw [merkleRoot_cached H hc]; exact hcached h a l r c hc

theorem collectF_fuel (h : Heap) {f a : Nat} (hf : a < f) (vis : List Nat) :
    collectF h f a vis = collect h a vis := by
  refine fuel_irrelevant (collectF h) (fun f g a hx vis => ?_)
    f (a + 1) a vis hf (Nat.lt_succ_self a)
  unfold collectF
  by_cases hm : a ∈ vis
  · rw [if_pos hm, if_pos hm]
  · rw [if_neg hm, if_neg hm]
    rcases h.cells[a]? with _ | (c | ⟨l, r, (_ | c)⟩)
    · rfl
    · rfl
    · exact ite_congr rfl (fun hlt => by rw [hx l vis hlt.1, hx r _ hlt.2]) (fun _ => rfl)
    · rfl

theorem collect_pair {h : Heap} {a l r : Nat} {vis : List Nat} (hm : a ∉ vis)
    (hc : h.cells[a]? = some (Cell.pair l r none)) (hl : l < a) (hr : r < a) :
    collect h a vis = a :: collect h r (collect h l vis) := by
  rw [collect, collectF, if_neg hm, hc]
  dsimp only
  rw [if_pos ⟨hl, hr⟩, collectF_fuel h hl, collectF_fuel h hr]

theorem collect_stop {h : Heap} {a : Nat} {vis : List Nat}
    (hst : a ∉ vis → ∀ l r, h.cells[a]? = some (Cell.pair l r none) → ¬ (l < a ∧ r < a)) :
    collect h a vis = vis := by
  by_cases hm : a ∈ vis
  · unfold collect collectF; rw [if_pos hm]
  · unfold collect collectF; rw [if_neg hm]
    rcases hc : h.cells[a]? with _ | (c | ⟨l, r, (_ | c)⟩)
    · rfl
    · rfl
    · exact if_neg (hst hm l r hc)
    · rfl

theorem collect_induct (h : Heap) (P : Nat → List Nat → List Nat → Prop)
    (hstop : ∀ a vis,
      (a ∉ vis → ∀ l r, h.cells[a]? = some (Cell.pair l r none) → ¬ (l < a ∧ r < a)) →
      P a vis vis)
    (hpair : ∀ a vis l r, a ∉ vis → h.cells[a]? = some (Cell.pair l r none) → l < a → r < a →
      P l vis (collect h l vis) → P r (collect h l vis) (collect h r (collect h l vis)) →
      P a vis (a :: collect h r (collect h l vis))) :
    ∀ a vis, P a vis (collect h a vis) := by
  intro a
  induction a using Nat.strongRecOn with
  | ind a ih =>
    intro vis
    by_cases hgo : a ∉ vis ∧ ∃ l r, h.cells[a]? = some (Cell.pair l r none) ∧ l < a ∧ r < a
    · obtain ⟨hm, l, r, hc, hl, hr⟩ := hgo
      rw [collect_pair hm hc hl hr]
      exact hpair a vis l r hm hc hl hr (ih l hl vis) (ih r hr _)
    · have hst : a ∉ vis → ∀ l r, h.cells[a]? = some (Cell.pair l r none) → ¬ (l < a ∧ r < a) :=
        fun hm l r hc hlt => hgo ⟨hm, l, r, hc, hlt.1, hlt.2⟩
      rw [collect_stop hst]
      exact hstop a vis hst

/-- `b` is an uncached pair reachable from `a` through uncached pairs only -/
inductive ReachU (h : Heap) : Nat → Nat → Prop
  | here (a l r : Nat) : h.cells[a]? = some (Cell.pair l r none) → l < a → r < a → ReachU h a a
  | left (a l r b : Nat) : h.cells[a]? = some (Cell.pair l r none) → l < a → r < a →
      ReachU h l b → ReachU h a b
  | right (a l r b : Nat) : h.cells[a]? = some (Cell.pair l r none) → l < a → r < a →
      ReachU h r b → ReachU h a b

theorem ReachU.le {h : Heap} {a b : Nat} (hr : ReachU h a b) : b ≤ a := by
  induction hr with
  | here => exact Nat.le_refl _
  | left a l r b _ hl _ _ ih => exact Nat.le_of_lt (Nat.lt_of_le_of_lt ih hl)
  | right a l r b _ _ hr _ ih => exact Nat.le_of_lt (Nat.lt_of_le_of_lt ih hr)

theorem ReachU.source {h : Heap} {a b : Nat} (hr : ReachU h a b) :
    ∃ l r, h.cells[a]? = some (Cell.pair l r none) ∧ l < a ∧ r < a := by
  cases hr with
  | here _ l r hc hl hr => exact ⟨l, r, hc, hl, hr⟩
  | left _ l r _ hc hl hr _ => exact ⟨l, r, hc, hl, hr⟩
  | right _ l r _ hc hl hr _ => exact ⟨l, r, hc, hl, hr⟩

theorem ReachU.target {h : Heap} {a b : Nat} (hr : ReachU h a b) :
    ∃ l r, h.cells[b]? = some (Cell.pair l r none) := by
  induction hr with
  | here a l r hc _ _ => exact ⟨l, r, hc⟩
  | left _ _ _ _ _ _ _ _ ih => exact ih
  | right _ _ _ _ _ _ _ _ ih => exact ih

theorem ReachU.trans {h : Heap} {a b c : Nat} (h1 : ReachU h a b) (h2 : ReachU h b c) :
    ReachU h a c := by
  induction h1 with
  | here => exact h2
  | left a l r b hc hl hr _ ih => exact .left a l r c hc hl hr (ih h2)
  | right a l r b hc hl hr _ ih => exact .right a l r c hc hl hr (ih h2)

theorem reachU_iff {h : Heap} {a l r : Nat} (hc : h.cells[a]? = some (Cell.pair l r none))
    (hl : l < a) (hr : r < a) (b : Nat) :
    ReachU h a b ↔ b = a ∨ ReachU h l b ∨ ReachU h r b := by
  constructor
  · intro hreach
    cases hreach with
    | here => exact .inl rfl
    | left _ l' r' _ hc' _ _ hsub => rw [hc] at hc'; cases hc'; exact .inr (.inl hsub)
    | right _ l' r' _ hc' _ _ hsub => rw [hc] at hc'; cases hc'; exact .inr (.inr hsub)
  · rintro (rfl | hsub | hsub)
    · exact .here _ l r hc hl hr
    · exact .left a l r b hc hl hr hsub
    · exact .right a l r b hc hl hr hsub

theorem collect_spec (h : Heap) (a : Nat) (vis : List Nat) : vis.Nodup →
    (∀ x, x ∈ vis → ∀ b, ReachU h x b → b ∈ vis) →
    (collect h a vis).Nodup ∧ ∀ b, b ∈ collect h a vis ↔ (b ∈ vis ∨ ReachU h a b) := by
  refine collect_induct h (fun a vis res => vis.Nodup →
    (∀ x, x ∈ vis → ∀ b, ReachU h x b → b ∈ vis) →
    res.Nodup ∧ ∀ b, b ∈ res ↔ (b ∈ vis ∨ ReachU h a b)) ?_ ?_ a vis
  · intro a vis hst hnd hcl
    refine ⟨hnd, fun b => ⟨.inl, fun hb => hb.elim id (fun hab => ?_)⟩⟩
    by_cases hm : a ∈ vis
    · exact hcl a hm b hab
    · obtain ⟨l, r, hc, hlt⟩ := hab.source
      exact absurd hlt (hst hm l r hc)
  · intro a vis l r hm hc hl hr ih1 ih2 hnd hcl
    obtain ⟨nd1, mem1⟩ := ih1 hnd hcl
    -- the visited list stays closed under reachability
    have cl1 : ∀ x, x ∈ collect h l vis → ∀ b, ReachU h x b → b ∈ collect h l vis := by
      intro x hx b hxb
      rcases (mem1 x).1 hx with hx | hx
      · exact (mem1 b).2 (.inl (hcl x hx b hxb))
      · exact (mem1 b).2 (.inr (hx.trans hxb))
    obtain ⟨nd2, mem2⟩ := ih2 nd1 cl1
    refine ⟨List.nodup_cons.2 ⟨fun ha => ?_, nd2⟩, fun b => ?_⟩
    · rcases (mem2 a).1 ha with ha | ha
      · rcases (mem1 a).1 ha with ha | ha
        · exact hm ha
        · exact Nat.lt_irrefl a (Nat.lt_of_le_of_lt ha.le hl)
      · exact Nat.lt_irrefl a (Nat.lt_of_le_of_lt ha.le hr)
    · rw [List.mem_cons, mem2, mem1, reachU_iff hc hl hr, or_assoc]
      exact or_left_comm

theorem uncachedList_nodup (h : Heap) (a : Nat) : (uncachedList h a).Nodup :=
  (collect_spec h a [] List.nodup_nil (fun _ hx => by cases hx)).1

theorem mem_uncachedList (h : Heap) (a b : Nat) : b ∈ uncachedList h a ↔ ReachU h a b := by
  have := (collect_spec h a [] List.nodup_nil (fun _ hx => by cases hx)).2 b
  simpa [uncachedList] using this

theorem lt_size_of_get {h : Heap} {a : Nat} {c : Cell} (hc : h.cells[a]? = some c) :
    a < h.cells.size := (Array.getElem?_eq_some_iff.1 hc).1

theorem get_of_lt {h : Heap} {a : Nat} (ha : a < h.cells.size) : ∃ c, h.cells[a]? = some c :=
  ⟨_, Array.getElem?_eq_getElem ha⟩

/-- `h'` extends `h` without touching any existing cell (all allocation-only operations) -/
structure Prefix (h h' : Heap) : Prop where
  size : h.cells.size ≤ h'.cells.size
  cell : ∀ b, b < h.cells.size → h'.cells[b]? = h.cells[b]?
  calls : h'.hashCalls = h.hashCalls

/-- `h'` extends `h`; an existing cell is unchanged except that a `none` cache may have been filled -/
structure Grow (h h' : Heap) : Prop where
  size : h.cells.size ≤ h'.cells.size
  cell : ∀ b, b < h.cells.size → h'.cells[b]? = h.cells[b]? ∨
    ∃ l r c, h.cells[b]? = some (Cell.pair l r none) ∧ h'.cells[b]? = some (Cell.pair l r (some c))

theorem Prefix.refl (h : Heap) : Prefix h h := ⟨Nat.le_refl _, fun _ _ => rfl, rfl⟩

theorem Prefix.trans {h h1 h2 : Heap} (p1 : Prefix h h1) (p2 : Prefix h1 h2) : Prefix h h2 :=
  ⟨Nat.le_trans p1.size p2.size,
   fun b hb => by rw [p2.cell b (Nat.lt_of_lt_of_le hb p1.size), p1.cell b hb],
   by rw [p2.calls, p1.calls]⟩

theorem Prefix.get {h h' : Heap} (p : Prefix h h') {a : Nat} {c : Cell}
    (hc : h.cells[a]? = some c) : h'.cells[a]? = some c := by
  rw [p.cell a (lt_size_of_get hc), hc]

theorem Prefix.grow {h h' : Heap} (p : Prefix h h') : Grow h h' :=
  ⟨p.size, fun b hb => .inl (p.cell b hb)⟩

theorem Grow.refl (h : Heap) : Grow h h := ⟨Nat.le_refl _, fun _ _ => .inl rfl⟩

theorem Grow.trans {h h1 h2 : Heap} (g1 : Grow h h1) (g2 : Grow h1 h2) : Grow h h2 := by
  refine ⟨Nat.le_trans g1.size g2.size, fun b hb => ?_⟩
  rcases g1.cell b hb with e1 | ⟨l, r, c, e1, e1'⟩ <;>
    rcases g2.cell b (Nat.lt_of_lt_of_le hb g1.size) with e2 | ⟨l2, r2, c2, e2, e2'⟩
  · exact .inl (e2.trans e1)
  · exact .inr ⟨l2, r2, c2, e1 ▸ e2, e2'⟩
  · exact .inr ⟨l, r, c, e1, e2.trans e1'⟩
  · rw [e1'] at e2; cases e2

/-- a cell other than a pair with an empty cache stays as it is -/
theorem Grow.get {h h' : Heap} (g : Grow h h') {a : Nat} {c : Cell} (hc : h.cells[a]? = some c)
    (hne : ∀ l r, c ≠ .pair l r none) : h'.cells[a]? = some c := by
  rcases g.cell a (lt_size_of_get hc) with e | ⟨l, r, k, e, _⟩
  · rw [e, hc]
  · rw [hc] at e; cases e; exact absurd rfl (hne l r)

theorem Grow.get_pair {h h' : Heap} (g : Grow h h') {a l r : Nat} {k : Option Chunk}
    (hc : h.cells[a]? = some (Cell.pair l r k)) : ∃ k', h'.cells[a]? = some (Cell.pair l r k') := by
  rcases g.cell a (lt_size_of_get hc) with e | ⟨l', r', k', e, e'⟩
  · exact ⟨k, by rw [e, hc]⟩
  · rw [hc] at e; cases e; exact ⟨_, e'⟩

/-- Persistence (C06), generic form: whatever happens later (allocation, cache filling), an existing
    address keeps denoting the same tree. -/
theorem denote_grow {h h' : Heap} (g : Grow h h') :
    ∀ a, a < h.cells.size → denote h' a = denote h a := by
  intro a
  induction a using Nat.strongRecOn with
  | ind a ih =>
    intro ha
    obtain ⟨c | ⟨l, r, k⟩, hc⟩ := get_of_lt ha
    · rw [denote_leaf hc, denote_leaf (g.get hc fun _ _ => nofun)]
    · obtain ⟨k', hc'⟩ := g.get_pair hc
      by_cases hlt : l < a ∧ r < a
      · rw [denote_pair hc hlt.1 hlt.2, denote_pair hc' hlt.1 hlt.2,
          ih l hlt.1 (Nat.lt_trans hlt.1 ha), ih r hlt.2 (Nat.lt_trans hlt.2 ha)]
      · rw [denote_bad hc hlt, denote_bad hc' hlt]

theorem denote_prefix {h h' : Heap} (p : Prefix h h') (a : Nat) (ha : a < h.cells.size) :
    denote h' a = denote h a := denote_grow p.grow a ha

@[simp] theorem alloc_snd (h : Heap) (c : Cell) : (alloc h c).2 = h.cells.size := rfl

@[simp] theorem alloc_size (h : Heap) (c : Cell) :
    (alloc h c).1.cells.size = h.cells.size + 1 := Array.size_push _

@[simp] theorem alloc_calls (h : Heap) (c : Cell) : (alloc h c).1.hashCalls = h.hashCalls := rfl

theorem alloc_get (h : Heap) (c : Cell) (b : Nat) :
    (alloc h c).1.cells[b]? = if b = h.cells.size then some c else h.cells[b]? :=
  Array.getElem?_push

@[simp] theorem alloc_get_new (h : Heap) (c : Cell) :
    (alloc h c).1.cells[h.cells.size]? = some c := by rw [alloc_get, if_pos rfl]

theorem size_lt_alloc (h : Heap) (c : Cell) : h.cells.size < (alloc h c).1.cells.size := by
  rw [alloc_size]; exact Nat.lt_succ_self _

theorem lt_alloc {h : Heap} {x : Nat} (c : Cell) (hx : x < h.cells.size) :
    x < (alloc h c).1.cells.size := Nat.lt_trans hx (size_lt_alloc h c)

theorem alloc_prefix (h : Heap) (c : Cell) : Prefix h (alloc h c).1 :=
  ⟨Nat.le_of_lt (size_lt_alloc h c), fun b hb => by rw [alloc_get, if_neg (Nat.ne_of_lt hb)], rfl⟩

/-- side condition of an allocation: children exist already, the cache starts empty -/
def OkAt (n : Nat) : Cell → Prop
  | .leaf _ => True
  | .pair l r k => l < n ∧ r < n ∧ k = none

/-- `h'` extends `h` by allocations only, each new cell meeting the side condition `OkAt`
    (all modelled operations except cache filling) -/
structure Ext (h h' : Heap) : Prop where
  pre : Prefix h h'
  new : ∀ b c, h.cells.size ≤ b → h'.cells[b]? = some c → OkAt b c

theorem Ext.refl (h : Heap) : Ext h h :=
  ⟨Prefix.refl h, fun _ _ hb hc => absurd (lt_size_of_get hc) (Nat.not_lt.2 hb)⟩

theorem Ext.trans {h h1 h2 : Heap} (e1 : Ext h h1) (e2 : Ext h1 h2) : Ext h h2 := by
  refine ⟨e1.pre.trans e2.pre, fun b c hb hc => ?_⟩
  by_cases hlt : b < h1.cells.size
  · exact e1.new b c hb (e2.pre.cell b hlt ▸ hc)
  · exact e2.new b c (Nat.le_of_not_lt hlt) hc

theorem alloc_ext {h : Heap} {c : Cell} (ok : OkAt h.cells.size c) : Ext h (alloc h c).1 := by
  refine ⟨alloc_prefix h c, fun b c' hb hc => ?_⟩
  rw [alloc_get] at hc
  by_cases e : b = h.cells.size
  · rw [if_pos e] at hc; cases hc; exact e ▸ ok
  · rw [if_neg e] at hc
    exact absurd (lt_size_of_get hc) (Nat.not_lt.2 hb)

theorem Ext.shape {h h' : Heap} (e : Ext h h') (hs : Shape h) : Shape h' := by
  intro a l r k hc
  by_cases ha : a < h.cells.size
  · exact hs a l r k (e.pre.cell a ha ▸ hc)
  · have ok := e.new a _ (Nat.le_of_not_lt ha) hc
    exact ⟨ok.1, ok.2.1⟩

theorem Ext.wf {H : Hash} {h h' : Heap} (e : Ext h h') (hw : WF H h) : WF H h' := by
  refine ⟨e.shape hw.1, fun a l r c hc => ?_⟩
  by_cases ha : a < h.cells.size
  · rw [denote_prefix e.pre a ha]
    exact hw.2 a l r c (e.pre.cell a ha ▸ hc)
  · cases (e.new a _ (Nat.le_of_not_lt ha) hc).2.2

/-- Persistence (C06) for `alloc` -/
theorem alloc_frame (h : Heap) (c : Cell) (b : Nat) (hb : b < h.cells.size) :
    denote (alloc h c).1 b = denote h b := denote_prefix (alloc_prefix h c) b hb

theorem denote_alloc_leaf (h : Heap) (c : Chunk) :
    denote (alloc h (.leaf c)).1 h.cells.size = .leaf c := denote_leaf (alloc_get_new h _)

theorem denote_alloc_pair (h : Heap) {l r : Nat} (hl : l < h.cells.size) (hr : r < h.cells.size) :
    denote (alloc h (.pair l r none)).1 h.cells.size = .pair (denote h l) (denote h r) := by
  rw [denote_pair (alloc_get_new h _) hl hr, alloc_frame h _ l hl, alloc_frame h _ r hr]

theorem expandH_cons (H : Hash) (h : Heap) (b : Bool) (bs : List Bool) (v : Nat) :
    expandH H h (b :: bs) v =
      alloc (alloc (expandH H h bs v).1 (.leaf (zeroHash H bs.length))).1
        (if b then .pair (expandH H h bs v).1.cells.size (expandH H h bs v).2 none
         else .pair (expandH H h bs v).2 (expandH H h bs v).1.cells.size none) := by
  cases b <;> simp [expandH]

/-- `expandH` allocates a zero leaf and a pair per step and touches nothing else -/
theorem expandH_alloc (H : Hash) (h : Heap) (p : List Bool) (v : Nat) :
    Prefix h (expandH H h p v).1 ∧
      (expandH H h p v).1.cells.size = h.cells.size + 2 * p.length := by
  induction p with
  | nil => exact ⟨Prefix.refl h, rfl⟩
  | cons b bs ih =>
    rw [expandH_cons, alloc_size, alloc_size, ih.2, List.length_cons, Nat.mul_succ]
    exact ⟨(ih.1.trans (alloc_prefix _ _)).trans (alloc_prefix _ _), rfl⟩

theorem expandH_lt (H : Hash) (h : Heap) (p : List Bool) {v : Nat} (hv : v < h.cells.size) :
    (expandH H h p v).2 < (expandH H h p v).1.cells.size := by
  cases p with
  | nil => exact hv
  | cons b bs => rw [expandH_cons]; exact size_lt_alloc _ _

theorem expandH_ext (H : Hash) (h : Heap) (p : List Bool) {v : Nat} (hv : v < h.cells.size) :
    Ext h (expandH H h p v).1 := by
  induction p with
  | nil => exact Ext.refl h
  | cons b bs ih =>
    rw [expandH_cons]
    have hx := lt_alloc (.leaf (zeroHash H bs.length)) (expandH_lt H h bs hv)
    refine (ih.trans (alloc_ext (c := Cell.leaf _) trivial)).trans (alloc_ext ?_)
    cases b
    · exact ⟨hx, size_lt_alloc _ _, rfl⟩
    · exact ⟨size_lt_alloc _ _, hx, rfl⟩

theorem denote_expandH (H : Hash) (h : Heap) (p : List Bool) {v : Nat} (hv : v < h.cells.size) :
    denote (expandH H h p v).1 (expandH H h p v).2 = expandSet H p (denote h v) := by
  induction p with
  | nil => rfl
  | cons b bs ih =>
    have hx := expandH_lt H h bs hv
    rw [expandH_cons]
    cases b
    · simp only [alloc_snd, Bool.false_eq_true, if_false]
      rw [denote_alloc_pair _ (lt_alloc _ hx) (size_lt_alloc _ _), alloc_frame _ _ _ hx, ih,
        denote_alloc_leaf]
      rfl
    · simp only [alloc_snd, if_true]
      rw [denote_alloc_pair _ (size_lt_alloc _ _) (lt_alloc _ hx), alloc_frame _ _ _ hx, ih,
        denote_alloc_leaf]
      rfl

@[simp] theorem setPathH_nil (H : Hash) (e : Bool) (h : Heap) (a v : Nat) :
    setPathH H e h a [] v = some (h, v) := rfl

theorem setPathH_cons_pair (H : Hash) (e : Bool) {h : Heap} {a l r : Nat} {k : Option Chunk}
    (hc : h.cells[a]? = some (Cell.pair l r k)) (b : Bool) (bs : List Bool) (v : Nat) :
    setPathH H e h a (b :: bs) v =
      (setPathH H e h (if b then r else l) bs v).map fun x =>
        alloc x.1 (if b then .pair l x.2 none else .pair x.2 r none) := by
  cases b <;> rw [setPathH, hc] <;> rfl

theorem setPathH_cons_leaf (H : Hash) (e : Bool) {h : Heap} {a : Nat} {c : Chunk}
    (hc : h.cells[a]? = some (Cell.leaf c)) (b : Bool) (bs : List Bool) (v : Nat) :
    setPathH H e h a (b :: bs) v =
      if e && c == zeroHash H (bs.length + 1) then some (expandH H h (b :: bs) v) else none := by
  unfold setPathH; rw [hc]

theorem setPathH_cons_inv {H : Hash} {e : Bool} {h h' : Heap} {a a' v : Nat} {b : Bool}
    {bs : List Bool} (hs : setPathH H e h a (b :: bs) v = some (h', a')) :
    (∃ l r k h1 x, h.cells[a]? = some (Cell.pair l r k) ∧
        setPathH H e h (if b then r else l) bs v = some (h1, x) ∧
        h' = (alloc h1 (if b then .pair l x none else .pair x r none)).1 ∧ a' = h1.cells.size) ∨
    (∃ c, h.cells[a]? = some (Cell.leaf c) ∧ e = true ∧ c = zeroHash H (bs.length + 1) ∧
        h' = (expandH H h (b :: bs) v).1 ∧ a' = (expandH H h (b :: bs) v).2) := by
  rcases hc : h.cells[a]? with _ | (c | ⟨l, r, k⟩)
  · unfold setPathH at hs; rw [hc] at hs; cases hs
  · rw [setPathH_cons_leaf H e hc, Option.ite_none_right_eq_some, Option.some.injEq,
      Bool.and_eq_true, beq_iff_eq] at hs
    obtain ⟨⟨he, hz⟩, hx⟩ := hs
    exact .inr ⟨c, rfl, he, hz, (congrArg Prod.fst hx).symm, (congrArg Prod.snd hx).symm⟩
  · rw [setPathH_cons_pair H e hc] at hs
    obtain ⟨⟨h1, x⟩, hsub, hx⟩ := Option.map_eq_some_iff.1 hs
    exact .inl ⟨l, r, k, h1, x, rfl, hsub, (congrArg Prod.fst hx).symm, (congrArg Prod.snd hx).symm⟩

/-- `setPathH` only allocates: existing cells are untouched, no hash is computed, and each step
    adds a pair and, under expansion, a zero leaf -/
theorem setPathH_alloc {H : Hash} {e : Bool} {h h' : Heap} {a a' v : Nat} {p : List Bool}
    (hs : setPathH H e h a p v = some (h', a')) :
    Prefix h h' ∧ h.cells.size + p.length ≤ h'.cells.size ∧
      h'.cells.size ≤ h.cells.size + 2 * p.length := by
  induction p generalizing a h' a' with
  | nil => cases hs; exact ⟨Prefix.refl h, Nat.le_refl _, Nat.le_refl _⟩
  | cons b bs ih =>
    rcases setPathH_cons_inv hs with ⟨l, r, k, h1, x, _, hsub, rfl, _⟩ | ⟨c, _, _, _, rfl, _⟩
    · obtain ⟨p1, lo, hi⟩ := ih hsub
      rw [alloc_size]
      exact ⟨p1.trans (alloc_prefix _ _), Nat.succ_le_succ lo,
        Nat.le_succ_of_le (Nat.succ_le_succ hi)⟩
    · obtain ⟨p1, sz⟩ := expandH_alloc H h (b :: bs) v
      rw [sz]
      exact ⟨p1, Nat.add_le_add_left (Nat.le_mul_of_pos_left _ Nat.two_pos) _, Nat.le_refl _⟩

theorem setPathH_prefix {H : Hash} {e : Bool} {h h' : Heap} {a a' v : Nat} {p : List Bool}
    (hs : setPathH H e h a p v = some (h', a')) : Prefix h h' := (setPathH_alloc hs).1

theorem setPathH_lt {H : Hash} {e : Bool} {h h' : Heap} {a a' v : Nat} {p : List Bool}
    (hv : v < h.cells.size) (hs : setPathH H e h a p v = some (h', a')) : a' < h'.cells.size := by
  cases p with
  | nil => cases hs; exact hv
  | cons b bs =>
    rcases setPathH_cons_inv hs with ⟨l, r, k, h1, x, _, hsub, rfl, rfl⟩ | ⟨c, _, _, _, rfl, rfl⟩
    · exact size_lt_alloc _ _
    · exact expandH_lt H h (b :: bs) hv

/-- number of allocated cells: one new pair per step (no expansion) -/
theorem setPathH_size {H : Hash} {h h' : Heap} {a a' v : Nat} {p : List Bool}
    (hs : setPathH H false h a p v = some (h', a')) :
    h'.cells.size = h.cells.size + p.length := by
  induction p generalizing a h' a' with
  | nil => cases hs; rfl
  | cons b bs ih =>
    rcases setPathH_cons_inv hs with ⟨l, r, k, h1, x, _, hsub, rfl, _⟩ | ⟨c, _, he, _, _⟩
    · rw [alloc_size, ih hsub, List.length_cons]
      rfl
    · cases he

/-- number of allocated cells in general: at most a pair and a zero leaf per step -/
theorem setPathH_size_le {H : Hash} {e : Bool} {h h' : Heap} {a a' v : Nat} {p : List Bool}
    (hs : setPathH H e h a p v = some (h', a')) :
    h.cells.size + p.length ≤ h'.cells.size ∧ h'.cells.size ≤ h.cells.size + 2 * p.length :=
  (setPathH_alloc hs).2

theorem setPathH_expand_of_noexp {H : Hash} {h : Heap} {a v : Nat} {p : List Bool}
    {res : Heap × Nat} (hs : setPathH H false h a p v = some res) :
    setPathH H true h a p v = some res := by
  induction p generalizing a res with
  | nil => exact hs
  | cons b bs ih =>
    obtain ⟨h', a'⟩ := res
    rcases setPathH_cons_inv hs with ⟨l, r, k, h1, x, hc, hsub, rfl, rfl⟩ | ⟨c, _, he, _, _⟩
    · rw [setPathH_cons_pair H true hc, ih hsub]; rfl
    · cases he

theorem setPathH_ext {H : Hash} {e : Bool} {h h' : Heap} {a a' v : Nat} {p : List Bool}
    (hsh : Shape h) (hv : v < h.cells.size) (hs : setPathH H e h a p v = some (h', a')) :
    Ext h h' := by
  induction p generalizing a h' a' with
  | nil => cases hs; exact Ext.refl h
  | cons b bs ih =>
    rcases setPathH_cons_inv hs with ⟨l, r, k, h1, x, hc, hsub, rfl, _⟩ | ⟨c, _, _, _, rfl, _⟩
    · have e1 := ih hsub
      have hx := setPathH_lt hv hsub
      have hlt := hsh a l r k hc
      have ha := Nat.lt_of_lt_of_le (lt_size_of_get hc) e1.pre.size
      refine e1.trans (alloc_ext ?_)
      cases b
      · exact ⟨hx, Nat.lt_trans hlt.2 ha, rfl⟩
      · exact ⟨Nat.lt_trans hlt.1 ha, hx, rfl⟩
    · exact expandH_ext H h (b :: bs) hv

/-- Refinement: the heap operation computes the pure `setPath` on the denoted trees
    (success and failure alike), so every C07 law about `setPath` transfers to the heap. -/
theorem denote_setPathH_eq (H : Hash) (e : Bool) {h : Heap} (hsh : Shape h) {a v : Nat}
    (ha : a < h.cells.size) (hv : v < h.cells.size) (p : List Bool) :
    (setPathH H e h a p v).map (fun x => denote x.1 x.2) =
      setPath H e (denote h a) p (denote h v) := by
  induction p generalizing a with
  | nil => rw [setPath_nil]; rfl
  | cons b bs ih =>
    obtain ⟨c | ⟨l, r, k⟩, hc⟩ := get_of_lt ha
    · rw [setPathH_cons_leaf H e hc, denote_leaf hc, setPath_leaf_cons]
      split
      · simp only [Option.map_some]; rw [denote_expandH H h (b :: bs) hv]
      · rfl
    · obtain ⟨hl, hr⟩ := hsh a l r k hc
      rw [setPathH_cons_pair H e hc, denote_pair hc hl hr, setPath_pair_cons]
      cases b
      · simp only [Bool.false_eq_true, if_false]
        rw [← ih (Nat.lt_trans hl ha)]
        rcases hsub : setPathH H e h l bs v with _ | ⟨h1, x⟩
        · rfl
        · have hp := setPathH_prefix hsub
          have hra := Nat.lt_trans hr ha
          simp only [Option.map_some, alloc_snd]
          rw [denote_alloc_pair h1 (setPathH_lt hv hsub) (Nat.lt_of_lt_of_le hra hp.size),
            denote_prefix hp r hra]
      · simp only [if_true]
        rw [← ih (Nat.lt_trans hr ha)]
        rcases hsub : setPathH H e h r bs v with _ | ⟨h1, x⟩
        · rfl
        · have hp := setPathH_prefix hsub
          have hla := Nat.lt_trans hl ha
          simp only [Option.map_some, alloc_snd]
          rw [denote_alloc_pair h1 (Nat.lt_of_lt_of_le hla hp.size) (setPathH_lt hv hsub),
            denote_prefix hp l hla]

theorem denote_setPathH {H : Hash} {e : Bool} {h h' : Heap} {a a' v : Nat} {p : List Bool}
    (hw : WF H h) (ha : a < h.cells.size) (hv : v < h.cells.size)
    (hs : setPathH H e h a p v = some (h', a')) :
    setPath H e (denote h a) p (denote h v) = some (denote h' a') := by
  rw [← denote_setPathH_eq H e hw.1 ha hv p, hs]; rfl

/-- Persistence (C06) for `setPathH` -/
theorem setPathH_frame {H : Hash} {e : Bool} {h h' : Heap} {a a' v : Nat} {p : List Bool}
    (hs : setPathH H e h a p v = some (h', a')) (b : Nat) (hb : b < h.cells.size) :
    denote h' b = denote h b := denote_prefix (setPathH_prefix hs) b hb

theorem sharesOffPath_mono {h h1 h' : Heap} (pre : Prefix h1 h') {a a1 : Nat} {p : List Bool}
    (hs : SharesOffPath h a h1 a1 p) : SharesOffPath h a h' a1 p := by
  induction p generalizing a a1 with
  | nil => trivial
  | cons b bs ih =>
    obtain ⟨l, r, c, l', r', c', hc, hc', hrest⟩ := hs
    refine ⟨l, r, c, l', r', c', hc, pre.get hc', ?_⟩
    cases b <;> exact ⟨hrest.1, ih hrest.2⟩

/-- Sharing (C19): along the whole path the off-path child of each new pair cell is the very same
    ADDRESS as in the old cell. -/
theorem setPathH_shares {H : Hash} {h h' : Heap} {a a' v : Nat} {p : List Bool}
    (hs : setPathH H false h a p v = some (h', a')) : SharesOffPath h a h' a' p := by
  induction p generalizing a h' a' with
  | nil => trivial
  | cons b bs ih =>
    rcases setPathH_cons_inv hs with ⟨l, r, k, h1, x, hc, hsub, rfl, rfl⟩ | ⟨c, _, he, _, _⟩
    · have hrec := fun c => sharesOffPath_mono (alloc_prefix h1 c) (ih hsub)
      cases b
      · exact ⟨l, r, k, x, r, none, hc, alloc_get_new _ _, rfl, hrec _⟩
      · exact ⟨l, r, k, l, x, none, hc, alloc_get_new _ _, rfl, hrec _⟩
    · cases he

@[simp] theorem fill_size (h : Heap) (a l r : Nat) (c : Chunk) :
    (fill h a l r c).cells.size = h.cells.size := by unfold fill; simp

@[simp] theorem fill_calls (h : Heap) (a l r : Nat) (c : Chunk) :
    (fill h a l r c).hashCalls = h.hashCalls + 1 := rfl

theorem fill_get_ne (h : Heap) {a b : Nat} (l r : Nat) (c : Chunk) (hne : b ≠ a) :
    (fill h a l r c).cells[b]? = h.cells[b]? :=
  Array.getElem?_setIfInBounds_ne (Ne.symm hne)

theorem fill_get_self {h : Heap} {a : Nat} (l r : Nat) (c : Chunk) (ha : a < h.cells.size) :
    (fill h a l r c).cells[a]? = some (Cell.pair l r (some c)) := by
  unfold fill; simp [ha]

theorem fill_grow {h : Heap} {a l r : Nat} (c : Chunk)
    (hc : h.cells[a]? = some (Cell.pair l r none)) : Grow h (fill h a l r c) := by
  refine ⟨Nat.le_of_eq (fill_size ..).symm, fun b hb => ?_⟩
  by_cases hba : b = a
  · subst hba; exact .inr ⟨l, r, c, hc, fill_get_self l r c hb⟩
  · exact .inl (fill_get_ne h l r c hba)

/-- `merkleRoot` allocates nothing, only fills `none` caches, and only at addresses `≤ a` -/
theorem merkleRoot_grow_aux (H : Hash) (h : Heap) (a : Nat) :
    Grow h (merkleRoot H h a).1 ∧ (merkleRoot H h a).1.cells.size = h.cells.size ∧
      ∀ b, a < b → (merkleRoot H h a).1.cells[b]? = h.cells[b]? := by
  refine merkleRoot_induct H
    (fun h a res => Grow h res.1 ∧ res.1.cells.size = h.cells.size ∧
      ∀ b, a < b → res.1.cells[b]? = h.cells[b]?) ?_ ?_ ?_ ?_ ?_ h a
  · intro h a c _; exact ⟨Grow.refl h, rfl, fun _ _ => rfl⟩
  · intro h a l r c _; exact ⟨Grow.refl h, rfl, fun _ _ => rfl⟩
  · intro h a _; exact ⟨Grow.refl h, rfl, fun _ _ => rfl⟩
  · intro h a l r _ _; exact ⟨Grow.refl h, rfl, fun _ _ => rfl⟩
  · intro h a l r hc hl hr ⟨g1, s1, a1⟩ ⟨g2, s2, a2⟩
    have hc2 : (merkleRoot H (merkleRoot H h l).1 r).1.cells[a]? = some (Cell.pair l r none) := by
      rw [a2 a hr, a1 a hl, hc]
    refine ⟨(g1.trans g2).trans (fill_grow _ hc2), (fill_size ..).trans (s2.trans s1), fun b hb => ?_⟩
    show (fill _ a l r _).cells[b]? = _
    rw [fill_get_ne _ l r _ (Nat.ne_of_gt hb), a2 b (Nat.lt_trans hr hb), a1 b (Nat.lt_trans hl hb)]

theorem merkleRoot_grow (H : Hash) (h : Heap) (a : Nat) : Grow h (merkleRoot H h a).1 :=
  (merkleRoot_grow_aux H h a).1

theorem merkleRoot_size (H : Hash) (h : Heap) (a : Nat) :
    (merkleRoot H h a).1.cells.size = h.cells.size := (merkleRoot_grow_aux H h a).2.1

theorem merkleRoot_children_cell (H : Hash) {h : Heap} {a l r : Nat} {c : Cell}
    (hc : h.cells[a]? = some c) (hl : l < a) (hr : r < a) :
    (merkleRoot H (merkleRoot H h l).1 r).1.cells[a]? = some c := by
  rw [(merkleRoot_grow_aux H _ r).2.2 a hr, (merkleRoot_grow_aux H h l).2.2 a hl, hc]

/-- Persistence (C06) for `merkleRoot` -/
theorem merkleRoot_frame (H : Hash) (h : Heap) (a b : Nat) (hb : b < h.cells.size) :
    denote (merkleRoot H h a).1 b = denote h b := denote_grow (merkleRoot_grow H h a) b hb

theorem Grow.shape {h h' : Heap} (g : Grow h h') (hsz : h'.cells.size = h.cells.size)
    (hs : Shape h) : Shape h' := by
  intro b l r k hb
  have hlt : b < h.cells.size := hsz ▸ lt_size_of_get hb
  rcases g.cell b hlt with e | ⟨l', r', c, e, e'⟩
  · exact hs b l r k (e ▸ hb)
  · rw [e'] at hb; cases hb; exact hs b l r none e

theorem fill_WF {H : Hash} {h : Heap} {a l r : Nat} {c : Chunk} (hw : WF H h)
    (hc : h.cells[a]? = some (Cell.pair l r none)) (hl : l < a) (hr : r < a)
    (hv : c = (denote h a).root H) : WF H (fill h a l r c) := by
  have ha := lt_size_of_get hc
  have g := fill_grow c hc
  refine ⟨g.shape (fill_size ..) hw.1, ?_⟩
  intro b l' r' k hb
  rw [denote_grow g b (fill_size h a l r c ▸ lt_size_of_get hb)]
  by_cases hba : b = a
  · subst hba
    rw [fill_get_self l r c ha] at hb
    cases hb; exact hv
  · rw [fill_get_ne h l r c hba] at hb
    exact hw.2 b l' r' k hb

theorem merkleRoot_spec (H : Hash) (h : Heap) (a : Nat) (hw : WF H h) :
    WF H (merkleRoot H h a).1 ∧ (merkleRoot H h a).2 = (denote h a).root H := by
  refine merkleRoot_induct H
    (fun h a res => WF H h → WF H res.1 ∧ res.2 = (denote h a).root H) ?_ ?_ ?_ ?_ ?_ h a hw
  · intro h a c hc hw; exact ⟨hw, by rw [denote_leaf hc]; rfl⟩
  · intro h a l r c hc hw; exact ⟨hw, hw.2 a l r c hc⟩
  · intro h a hc hw; exact ⟨hw, by unfold denote denoteF; rw [hc]; rfl⟩
  · intro h a l r hc hb hw; exact ⟨hw, by rw [denote_bad hc hb]; rfl⟩
  · intro h a l r hc hl hr ih1 ih2 hw
    obtain ⟨hw1, v1⟩ := ih1 hw
    obtain ⟨hw2, v2⟩ := ih2 hw1
    have ha := lt_size_of_get hc
    have g1 := merkleRoot_grow H h l
    have g2 := merkleRoot_grow H (merkleRoot H h l).1 r
    have hc2 := merkleRoot_children_cell H hc hl hr
    have hval : H (merkleRoot H h l).2 (merkleRoot H (merkleRoot H h l).1 r).2
        = (denote h a).root H := by
      rw [v1, v2, denote_grow g1 r (Nat.lt_trans hr ha), denote_pair hc hl hr]; rfl
    refine ⟨fill_WF hw2 hc2 hl hr ?_, hval⟩
    rw [denote_grow (g1.trans g2) a ha]; exact hval

theorem merkleRoot_value {H : Hash} {h : Heap} (hw : WF H h) (a : Nat) :
    (merkleRoot H h a).2 = (denote h a).root H := (merkleRoot_spec H h a hw).2

/-- a second `merkleRoot` on the result heap changes nothing (in particular: 0 hash calls, and a
    copy of a view, sharing the backing address, gets the cached root for free) -/
theorem merkleRoot_idempotent (H : Hash) (h : Heap) (a : Nat) :
    merkleRoot H (merkleRoot H h a).1 a = merkleRoot H h a := by
  refine merkleRoot_induct H (fun h a res => merkleRoot H res.1 a = res) ?_ ?_ ?_ ?_ ?_ h a
  · intro h a c hc; exact merkleRoot_leaf H hc
  · intro h a l r c hc; exact merkleRoot_cached H hc
  · intro h a hc; exact merkleRoot_none H hc
  · intro h a l r hc hb; exact merkleRoot_bad H hc hb
  · intro h a l r hc hl hr _ _
    exact merkleRoot_cached H
      (fill_get_self l r _ (lt_size_of_get (merkleRoot_children_cell H hc hl hr)))

theorem merkleRoot_idempotent_cost (H : Hash) (h : Heap) (a : Nat) :
    (merkleRoot H (merkleRoot H h a).1 a).1.hashCalls = (merkleRoot H h a).1.hashCalls := by
  rw [merkleRoot_idempotent]

theorem hashed_lt_size {h : Heap} {a : Nat} (hh : Hashed h a) : a < h.cells.size := by
  cases hh with
  | leaf _ c hc => exact lt_size_of_get hc
  | pair _ l r c hc _ _ => exact lt_size_of_get hc

theorem hashed_grow {h h' : Heap} (g : Grow h h') {a : Nat} (hh : Hashed h a) : Hashed h' a := by
  induction hh with
  | leaf a c hc => exact .leaf a c (g.get hc fun _ _ => nofun)
  | pair a l r c hc _ _ ihl ihr => exact .pair a l r c (g.get hc fun _ _ => nofun) ihl ihr

theorem hashed_children {h : Heap} {a l r : Nat} {k : Option Chunk} (hh : Hashed h a)
    (hc : h.cells[a]? = some (Cell.pair l r k)) : Hashed h l ∧ Hashed h r := by
  cases hh with
  | leaf _ c hc' => rw [hc] at hc'; cases hc'
  | pair _ l' r' c hc' hl hr => rw [hc] at hc'; cases hc'; exact ⟨hl, hr⟩

theorem Ext.closed {h h' : Heap} (e : Ext h h') (hcl : Closed h) : Closed h' := by
  intro a l r c hc
  by_cases ha : a < h.cells.size
  · exact hashed_grow e.pre.grow (hcl a l r c (e.pre.cell a ha ▸ hc))
  · cases (e.new a _ (Nat.le_of_not_lt ha) hc).2.2

theorem fill_closed {h : Heap} {a l r : Nat} {c : Chunk} (hcl : Closed h)
    (hc : h.cells[a]? = some (Cell.pair l r none)) (hl : Hashed h l) (hr : Hashed h r) :
    Closed (fill h a l r c) ∧ Hashed (fill h a l r c) a := by
  have g := fill_grow c hc
  have ha : Hashed (fill h a l r c) a :=
    .pair a l r c (fill_get_self l r c (lt_size_of_get hc)) (hashed_grow g hl) (hashed_grow g hr)
  refine ⟨?_, ha⟩
  intro b l' r' k hb
  by_cases hba : b = a
  · subst hba; exact ha
  · rw [fill_get_ne h l r c hba] at hb
    exact hashed_grow g (hcl b l' r' k hb)

theorem merkleRoot_closed_hashed (H : Hash) (h : Heap) (a : Nat) (hs : Shape h) (hcl : Closed h)
    (ha : a < h.cells.size) : Closed (merkleRoot H h a).1 ∧ Hashed (merkleRoot H h a).1 a := by
  refine merkleRoot_induct H
    (fun h a res => Shape h → Closed h → a < h.cells.size → Closed res.1 ∧ Hashed res.1 a)
    ?_ ?_ ?_ ?_ ?_ h a hs hcl ha
  · intro h a c hc _ hcl _; exact ⟨hcl, .leaf a c hc⟩
  · intro h a l r c hc _ hcl _; exact ⟨hcl, hcl a l r c hc⟩
  · intro h a hc _ _ ha; exact absurd ha (Nat.not_lt.2 (Array.getElem?_eq_none_iff.1 hc))
  · intro h a l r hc hb hs _ _; exact absurd (hs a l r none hc) hb
  · intro h a l r hc hl hr ih1 ih2 hs hcl ha
    have g1 := merkleRoot_grow H h l
    have g2 := merkleRoot_grow H (merkleRoot H h l).1 r
    have s1 := merkleRoot_size H h l
    obtain ⟨c1, h1⟩ := ih1 hs hcl (Nat.lt_trans hl ha)
    obtain ⟨c2, h2⟩ := ih2 (g1.shape s1 hs) c1 (s1 ▸ Nat.lt_trans hr ha)
    exact fill_closed c2 (merkleRoot_children_cell H hc hl hr) (hashed_grow g2 h1) h2

theorem merkleRoot_closed (H : Hash) {h : Heap} (hs : Shape h) (hcl : Closed h) {a : Nat}
    (ha : a < h.cells.size) : Closed (merkleRoot H h a).1 :=
  (merkleRoot_closed_hashed H h a hs hcl ha).1

theorem merkleRoot_shape (H : Hash) {h : Heap} (hs : Shape h) (a : Nat) :
    Shape (merkleRoot H h a).1 := (merkleRoot_grow H h a).shape (merkleRoot_size H h a) hs

theorem setPathH_closed {H : Hash} {e : Bool} {h h' : Heap} {a a' v : Nat} {p : List Bool}
    (hs : Shape h) (hcl : Closed h) (hv : v < h.cells.size)
    (hsp : setPathH H e h a p v = some (h', a')) : Closed h' :=
  (setPathH_ext hs hv hsp).closed hcl

/-- simulation between `merkleRoot` on `h` and the depth-first search on the initial heap `h0`:
    `h` is `h0` except that the caches at the visited addresses `F` are filled -/
structure Sim (h0 : Heap) (F : List Nat) (h : Heap) : Prop where
  off : ∀ b, b ∉ F → h.cells[b]? = h0.cells[b]?
  on : ∀ b, b ∈ F → ∃ l r c, h.cells[b]? = some (Cell.pair l r (some c))

/-- where `merkleRoot` returns without hashing, the search adds nothing -/
theorem Sim.stop {h0 h : Heap} {F : List Nat} (s : Sim h0 F h) {a : Nat}
    (hst : ∀ l r, h.cells[a]? = some (Cell.pair l r none) → ¬ (l < a ∧ r < a)) :
    Sim h0 (collect h0 a F) h ∧
      h.hashCalls + F.length = h.hashCalls + (collect h0 a F).length := by
  rw [collect_stop fun hm l r hc0 => hst l r (s.off a hm ▸ hc0)]
  exact ⟨s, rfl⟩

/-- filling the cache of an unvisited address visits it -/
theorem Sim.fill {h0 h : Heap} {F : List Nat} (s : Sim h0 F h) {a : Nat} (l r : Nat) (c : Chunk)
    (ha : a < h.cells.size) : Sim h0 (a :: F) (fill h a l r c) := by
  refine ⟨fun b hb => ?_, fun b hb => ?_⟩
  · rw [List.mem_cons, not_or] at hb
    rw [fill_get_ne h l r c hb.1]; exact s.off b hb.2
  · by_cases hba : b = a
    · subst hba; exact ⟨l, r, c, fill_get_self l r c ha⟩
    · rw [fill_get_ne h l r c hba]; exact s.on b ((List.mem_cons.1 hb).resolve_left hba)

theorem merkleRoot_sim (H : Hash) (h0 : Heap) (h : Heap) (a : Nat) :
    ∀ F, Sim h0 F h → Sim h0 (collect h0 a F) (merkleRoot H h a).1 ∧
      (merkleRoot H h a).1.hashCalls + F.length = h.hashCalls + (collect h0 a F).length := by
  refine merkleRoot_induct H
    (fun h a res => ∀ F, Sim h0 F h → Sim h0 (collect h0 a F) res.1 ∧
      res.1.hashCalls + F.length = h.hashCalls + (collect h0 a F).length) ?_ ?_ ?_ ?_ ?_ h a
  · intro h a c hc F s
    exact s.stop fun l r e => by rw [hc] at e; cases e
  · intro h a l r c hc F s
    exact s.stop fun l r e => by rw [hc] at e; cases e
  · intro h a hc F s
    exact s.stop fun l r e => by rw [hc] at e; cases e
  · intro h a l r hc hb F s
    exact s.stop fun l' r' e => by rw [hc] at e; cases e; exact hb
  · intro h a l r hc hl hr ih1 ih2 F s
    have hF : a ∉ F := fun hm => by
      obtain ⟨_, _, _, e⟩ := s.on a hm
      rw [hc] at e; cases e
    have h0c : h0.cells[a]? = some (Cell.pair l r none) := s.off a hF ▸ hc
    obtain ⟨s1, n1⟩ := ih1 F s
    obtain ⟨s2, n2⟩ := ih2 _ s1
    rw [collect_pair hF h0c hl hr]
    exact ⟨s2.fill l r _ (lt_size_of_get (merkleRoot_children_cell H hc hl hr)),
      by simp only [fill_calls, List.length_cons]; omega⟩

/-- Hash cost (C19), exact form: `merkleRoot` calls the pair hash exactly once per DISTINCT uncached
    pair address reachable from `a` (no hypothesis on the heap at all). -/
theorem merkleRoot_cost_eq (H : Hash) (h : Heap) (a : Nat) :
    (merkleRoot H h a).1.hashCalls = h.hashCalls + uncached h a :=
  (merkleRoot_sim H h h a [] ⟨fun _ _ => rfl, fun _ hb => nomatch hb⟩).2

theorem merkleRoot_cost (H : Hash) (h : Heap) (a : Nat) :
    (merkleRoot H h a).1.hashCalls - h.hashCalls ≤ uncached h a := by
  rw [merkleRoot_cost_eq, Nat.add_sub_cancel_left]
  exact Nat.le_refl _

theorem collect_prefix {h h' : Heap} (p : Prefix h h') {a : Nat} (ha : a < h.cells.size)
    (vis : List Nat) : collect h' a vis = collect h a vis := by
  refine collect_induct h (fun a vis res => a < h.cells.size → collect h' a vis = res)
    ?_ ?_ a vis ha
  · intro a vis hst ha
    exact collect_stop (p.cell a ha ▸ hst)
  · intro a vis l r hm hc hl hr ih1 ih2 ha
    rw [collect_pair hm (p.get hc) hl hr, ih1 (Nat.lt_trans hl ha), ih2 (Nat.lt_trans hr ha)]

theorem collect_hashed {h : Heap} {a : Nat} (hh : Hashed h a) (vis : List Nat) :
    collect h a vis = vis := by
  refine collect_stop fun _ l r hc' => ?_
  cases hh with
  | leaf _ c hc => rw [hc] at hc'; cases hc'
  | pair _ l r c hc _ _ => rw [hc] at hc'; cases hc'

/-- after a write below a fully hashed tree only the new path cells (and whatever is uncached
    below the written node `v`) are uncached -/
theorem setPathH_uncached {H : Hash} {h h' : Heap} {a a' v : Nat} {p : List Bool}
    (hh : Hashed h a) (hv : v < h.cells.size)
    (hs : setPathH H false h a p v = some (h', a')) :
    uncached h' a' ≤ p.length + uncached h v := by
  induction p generalizing a h' a' with
  | nil => cases hs; exact Nat.le_add_left _ _
  | cons b bs ih =>
    rcases setPathH_cons_inv hs with ⟨l, r, k, h1, x, hc, hsub, rfl, rfl⟩ | ⟨c, _, he, _, _⟩
    · obtain ⟨hhl, hhr⟩ := hashed_children hh hc
      have hp1 := setPathH_prefix hsub
      have hx := setPathH_lt hv hsub
      have step : ∀ n, n ≤ bs.length + uncached h v → n + 1 ≤ (b :: bs).length + uncached h v :=
        fun n hn => by rw [List.length_cons, Nat.add_right_comm]; exact Nat.succ_le_succ hn
      -- the new pair, then the search below the rewritten child; the sibling is hashed
      unfold uncached uncachedList
      cases b
      · have hpa := alloc_prefix h1 (Cell.pair x r none)
        simp only [Bool.false_eq_true, if_false]
        rw [collect_pair List.not_mem_nil (alloc_get_new _ _) hx
            (Nat.lt_of_lt_of_le (hashed_lt_size hhr) hp1.size), collect_prefix hpa hx,
          collect_hashed (hashed_grow (hp1.trans hpa).grow hhr)]
        exact step _ (ih hhl hsub)
      · have hpa := alloc_prefix h1 (Cell.pair l x none)
        simp only [if_true]
        rw [collect_pair List.not_mem_nil (alloc_get_new _ _)
            (Nat.lt_of_lt_of_le (hashed_lt_size hhl) hp1.size) hx,
          collect_hashed (hashed_grow (hp1.trans hpa).grow hhl), collect_prefix hpa hx]
        exact step _ (ih hhr hsub)
    · cases he

/-- Path bound (C19): if everything reachable from `a` is hashed, then after writing `v` at path
    `p` the new root costs at most one hash per path step plus the hashing of `v` itself. -/
theorem setPath_then_root_cost {H : Hash} {h h' : Heap} {a a' v : Nat} {p : List Bool}
    (hh : Hashed h a) (hv : v < h.cells.size)
    (hs : setPathH H false h a p v = some (h', a')) :
    (merkleRoot H h' a').1.hashCalls - h.hashCalls ≤ p.length + uncached h v := by
  rw [merkleRoot_cost_eq, (setPathH_prefix hs).calls, Nat.add_sub_cancel_left]
  exact setPathH_uncached hh hv hs

/-- the same, starting from any well-shaped heap by hashing `a` first (`e.g. after a merkleRoot`) -/
theorem root_setPath_root_cost {H : Hash} {h h' : Heap} {a a' v : Nat} {p : List Bool}
    (hsh : Shape h) (hcl : Closed h) (ha : a < h.cells.size) (hv : v < h.cells.size)
    (hs : setPathH H false (merkleRoot H h a).1 a p v = some (h', a')) :
    (merkleRoot H h' a').1.hashCalls - (merkleRoot H h a).1.hashCalls
      ≤ p.length + uncached (merkleRoot H h a).1 v :=
  setPath_then_root_cost (merkleRoot_closed_hashed H h a hsh hcl ha).2 (by rw [merkleRoot_size]; exact hv) hs

def nodes : Node → Nat
  | .leaf _ => 1
  | .pair l r => nodes l + nodes r + 1

theorem ofNode_size (h : Heap) (n : Node) :
    (ofNode h n).1.cells.size = h.cells.size + nodes n := by
  induction n generalizing h with
  | leaf c => exact alloc_size h _
  | pair l r ihl ihr =>
    show (alloc _ _).1.cells.size = _
    rw [alloc_size, ihr, ihl, nodes, ← Nat.add_assoc, ← Nat.add_assoc]

theorem ofNode_lt (h : Heap) (n : Node) : (ofNode h n).2 < (ofNode h n).1.cells.size := by
  cases n <;> exact size_lt_alloc _ _

theorem ofNode_ext (h : Heap) (n : Node) : Ext h (ofNode h n).1 := by
  induction n generalizing h with
  | leaf c => exact alloc_ext (c := Cell.leaf c) trivial
  | pair l r ihl ihr =>
    refine ((ihl h).trans (ihr _)).trans (alloc_ext ⟨?_, ofNode_lt _ r, rfl⟩)
    exact Nat.lt_of_lt_of_le (ofNode_lt h l) (ihr _).pre.size

theorem denote_ofNode (h : Heap) (n : Node) : denote (ofNode h n).1 (ofNode h n).2 = n := by
  induction n generalizing h with
  | leaf c => exact denote_alloc_leaf h c
  | pair l r ihl ihr =>
    have h1 := ofNode_lt h l
    have h2 := ofNode_lt (ofNode h l).1 r
    have hp := (ofNode_ext (ofNode h l).1 r).pre
    show denote (alloc _ (Cell.pair _ _ none)).1 (ofNode (ofNode h l).1 r).1.cells.size = _
    rw [denote_alloc_pair _ (Nat.lt_of_lt_of_le h1 hp.size) h2, ihr, denote_prefix hp _ h1, ihl]

theorem ofNode_closed {h : Heap} (hcl : Closed h) (n : Node) : Closed (ofNode h n).1 :=
  (ofNode_ext h n).closed hcl

/-- Persistence (C06) for `ofNode` -/
theorem ofNode_frame (h : Heap) (n : Node) (b : Nat) (hb : b < h.cells.size) :
    denote (ofNode h n).1 b = denote h b := denote_prefix (ofNode_ext h n).pre b hb

theorem empty_WF (H : Hash) : WF H Heap.empty :=
  ⟨fun a _ _ _ hc => absurd (lt_size_of_get hc) (Nat.not_lt_zero a),
   fun a _ _ _ hc => absurd (lt_size_of_get hc) (Nat.not_lt_zero a)⟩

theorem empty_closed : Closed Heap.empty :=
  fun a _ _ _ hc => absurd (lt_size_of_get hc) (Nat.not_lt_zero a)

/-- example of a C07 law transferred through the refinement: reading back what was written -/
theorem getPath_setPathH_same {H : Hash} {e : Bool} {h h' : Heap} {a a' v : Nat} {p : List Bool}
    (hw : WF H h) (ha : a < h.cells.size) (hv : v < h.cells.size)
    (hs : setPathH H e h a p v = some (h', a')) :
    getPath (denote h' a') p = some (denote h v) :=
  getPath_setPath_same H e _ p _ _ (denote_setPathH hw ha hv hs)

/-- the root after a write is the recomputation along the path from the sibling roots -/
theorem root_setPathH {H : Hash} {h h' : Heap} {a a' v : Nat} {p : List Bool}
    (hw : WF H h) (ha : a < h.cells.size) (hv : v < h.cells.size)
    (hs : setPathH H false h a p v = some (h', a')) :
    (merkleRoot H h' a').2 = rootWith H (denote h a) p ((denote h v).root H) := by
  rw [merkleRoot_value ((setPathH_ext hw.1 hv hs).wf hw), setPath_root H _ p _ _ (denote_setPathH hw ha hv hs)]

/-- one modelled heap operation -/
inductive Step (H : Hash) : Heap → Heap → Prop
  | alloc (h : Heap) (c : Cell) : OkAt h.cells.size c → Step H h (alloc h c).1
  | root (h : Heap) (a : Nat) : Step H h (merkleRoot H h a).1
  | set (e : Bool) (h : Heap) (a : Nat) (p : List Bool) (v : Nat) (h' : Heap) (a' : Nat) :
      v < h.cells.size → setPathH H e h a p v = some (h', a') → Step H h h'
  | ofNode (h : Heap) (n : Node) : Step H h (ofNode h n).1

inductive Steps (H : Hash) : Heap → Heap → Prop
  | refl (h : Heap) : Steps H h h
  | tail (h h1 h2 : Heap) : Steps H h h1 → Step H h1 h2 → Steps H h h2

theorem Step.grow {H : Hash} {h h' : Heap} (s : Step H h h') : Grow h h' := by
  cases s with
  | alloc _ c _ => exact (alloc_prefix h c).grow
  | root _ a => exact merkleRoot_grow H h a
  | set e _ a p v _ a' _ hs => exact (setPathH_prefix hs).grow
  | ofNode _ n => exact (ofNode_ext h n).pre.grow

theorem Step.wf {H : Hash} {h h' : Heap} (s : Step H h h') (hw : WF H h) : WF H h' := by
  cases s with
  | alloc _ c ok => exact (alloc_ext ok).wf hw
  | root _ a => exact (merkleRoot_spec H h a hw).1
  | set e _ a p v _ a' hv hs => exact (setPathH_ext hw.1 hv hs).wf hw
  | ofNode _ n => exact (ofNode_ext h n).wf hw

theorem Steps.grow {H : Hash} {h h' : Heap} (s : Steps H h h') : Grow h h' := by
  induction s with
  | refl => exact Grow.refl _
  | tail _ _ _ st ih => exact ih.trans st.grow

theorem Steps.wf {H : Hash} {h h' : Heap} (s : Steps H h h') (hw : WF H h) : WF H h' := by
  induction s with
  | refl => exact hw
  | tail _ _ _ st ih => exact st.wf ih

/-- Persistence (C06): a snapshot (an address held by somebody) keeps denoting the same tree
    whatever sequence of modelled operations happens later -/
theorem snapshot_persistent {H : Hash} {h h' : Heap} (s : Steps H h h') (b : Nat)
    (hb : b < h.cells.size) : denote h' b = denote h b := denote_grow s.grow b hb

section Examples

private def toy : Hash := fun a b => a ++ b

/-- `((1,2),(3,4))`: leaves at 0 1 3 4, pairs at 2 5 6 (root); then a spare leaf `9` at 7 -/
private def hA : Heap :=
  (alloc (ofNode Heap.empty
    (.pair (.pair (.leaf [1]) (.leaf [2])) (.pair (.leaf [3]) (.leaf [4])))).1 (.leaf [9])).1

example : hA.cells = #[.leaf [1], .leaf [2], .pair 0 1 none, .leaf [3], .leaf [4], .pair 3 4 none,
    .pair 2 5 none, .leaf [9]] := by decide +kernel

example : denote hA 6 = .pair (.pair (.leaf [1]) (.leaf [2])) (.pair (.leaf [3]) (.leaf [4])) := by
  decide +kernel

-- three uncached pairs: three hash calls; the caches are filled
example : uncachedList hA 6 = [6, 5, 2] := by decide +kernel
example : (merkleRoot toy hA 6).2 = [1, 2, 3, 4] := by decide +kernel
example : (merkleRoot toy hA 6).1.hashCalls = 3 := by decide +kernel
example : (merkleRoot toy hA 6).1.cells[6]? = some (.pair 2 5 (some [1, 2, 3, 4])) := by decide +kernel
-- second call: no hashing
example : (merkleRoot toy (merkleRoot toy hA 6).1 6).1.hashCalls = 3 := by decide +kernel

private def hB : Heap := (merkleRoot toy hA 6).1

-- write the leaf at address 7 at path right-left (gindex 6): two NEW cells 8, 9; nothing overwritten
example : (setPathH toy false hB 6 [true, false] 7).map (·.2) = some 9 := by decide +kernel
private def hC : Heap := ((setPathH toy false hB 6 [true, false] 7).map (·.1)).getD hB

example : hC.cells.size = hB.cells.size + 2 := by decide +kernel
-- sharing: the new root 9 re-uses address 2 (left subtree), the new cell 8 re-uses address 4
example : hC.cells[9]? = some (.pair 2 8 none) := by decide +kernel
example : hC.cells[8]? = some (.pair 7 4 none) := by decide +kernel
example : hC.cells.extract 0 8 = hB.cells := by decide +kernel
-- persistence: the old root still denotes the old tree, the new root the updated one
example : denote hC 6 = denote hA 6 := by decide +kernel
example : denote hC 9 = .pair (.pair (.leaf [1]) (.leaf [2])) (.pair (.leaf [9]) (.leaf [4])) := by
  decide +kernel
-- cost: only the two path cells are hashed (the cached subtree at 2 costs nothing)
example : uncachedList hC 9 = [9, 8] := by decide +kernel
example : (merkleRoot toy hC 9).1.hashCalls = 3 + 2 := by decide +kernel
example : (merkleRoot toy hC 9).2 = [1, 2, 9, 4] := by decide +kernel

-- shared subtrees are hashed once: `pair x x` over a pair `x` costs 2, not 3
private def hD : Heap :=
  (alloc (ofNode Heap.empty (.pair (.leaf [1]) (.leaf [2]))).1 (.pair 2 2 none)).1
example : uncached hD 3 = 2 := by decide +kernel
example : (merkleRoot toy hD 3).1.hashCalls = 2 := by decide +kernel

-- expansion of a zero summary of height 2: per step one pair and one fresh zero leaf
private def hE : Heap :=
  (alloc (alloc Heap.empty (.leaf (zeroHash toy 2))).1 (.leaf [7])).1
example : ((setPathH toy true hE 0 [false, true] 1).map fun x => (x.1.cells.size, x.2))
    = some (6, 5) := by decide +kernel
example : (setPathH toy true hE 0 [false, true] 1).map (fun x => denote x.1 x.2)
    = some (.pair (.pair (zeroNode toy 0) (.leaf [7])) (zeroNode toy 1)) := by decide +kernel
example : setPathH toy false hE 0 [false, true] 1 = none := by decide +kernel

end Examples

end Rmk.HeapLaws
