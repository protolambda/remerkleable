/-
Packing of bits, bytes and basic values into 32-byte chunks the way the constructors do it
(`Impl.packBits`, `packBytes`, `packInts`) is the spec's `pack`; all-zero data packs to zero chunks.
Plus the roots of `lenNode` and `mixInNode`, which the constructor proofs share.
-/
import Rmk.Proofs.BytesLemmas
import Rmk.Proofs.PackArith
import Rmk.Proofs.TreeLaws
import Rmk.Proofs.TypeLemmas
namespace Rmk.ConstructRoot
open Rmk Rmk.Impl Rmk.Spec

/-- `pack_bits_to_chunks` is the spec `pack` of the bitfield bytes -/
theorem packBits_eq_pack (bs : List Bool) : packBits bs = Spec.pack (bitsToBytes bs) := rfl

/-- `pack_bytes_to_chunks` is the spec `pack` -/
theorem packBytes_eq_pack (bs : List UInt8) : packBytes bs = Spec.pack bs := by
  obtain ⟨q, r, hr, hlen, hq⟩ : ∃ q r, r < 32 ∧ bs.length = q * 32 + r ∧ bs.length / 32 = q :=
    ⟨_, _, Nat.mod_lt _ (by decide), (Nat.div_add_mod' _ 32).symm, rfl⟩
  -- the `q` full windows need no padding
  have hfull : (List.range q).map (fun i => (bs.drop (32 * i)).take 32) =
      (List.range q).map ((fun g => padRight g 32) ∘ fun i => (bs.drop (32 * i)).take 32) :=
    List.map_congr_left fun i hi => (padRight_of_length_ge _ _ (by
      have := List.mem_range.1 hi
      rw [List.length_take, List.length_drop]
      omega)).symm
  unfold packBytes
  simp only [hq]
  clear hq
  rw [Spec.pack, bytesToChunks, groups_eq_range_map (by decide), List.map_map, hfull]
  by_cases h0 : r = 0
  · have hn : (bs.length + 32 - 1) / 32 = q := by omega
    rw [hn, if_neg (by simp; omega)]
  · -- and the last window is the `r` bytes left over
    have hn : (bs.length + 32 - 1) / 32 = q + 1 := by omega
    rw [hn, if_pos (by simp; omega), List.range_succ, List.map_append, List.map_singleton]
    congr 2
    rw [Function.comp, Nat.mul_comm 32 q, List.take_of_length_le (by rw [List.length_drop]; omega),
      padRight, List.length_drop]

theorem packBytes_length (bs : List UInt8) : (packBytes bs).length = (bs.length + 31) / 32 := by
  rw [packBytes_eq_pack, Spec.pack, bytesToChunks_length]

theorem packBytes_getElem (bs : List UInt8) (i : Nat) (hi : i < bs.length)
    (hj : i / 32 < (packBytes bs).length) :
    ((packBytes bs)[i / 32])[i % 32]? = some bs[i] := by
  have hk : i % 32 < ((bs.drop (32 * (i / 32))).take 32).length := by
    simp only [List.length_take, List.length_drop]; omega
  rw [List.getElem_of_eq (packBytes_eq_pack bs) hj]
  simp only [Spec.pack, bytesToChunks, List.getElem_map, groups_getElem (by decide : 0 < 32),
    padRight, List.getElem?_append_left hk, List.getElem?_eq_getElem hk, List.getElem_take,
    List.getElem_drop, Nat.div_add_mod]

theorem flatMap_length_const {α β} (f : α → List β) (s : Nat) (vs : List α)
    (h : ∀ v ∈ vs, (f v).length = s) : (vs.flatMap f).length = vs.length * s := by
  induction vs with
  | nil => simp
  | cons v vs ih =>
    rw [List.flatMap_cons, List.length_append, h v (List.mem_cons_self ..),
      ih fun x hx => h x (List.mem_cons_of_mem _ hx), List.length_cons, Nat.succ_mul, Nat.add_comm]

theorem flatMap_replicate_zeros {α} (f : α → List UInt8) (x : α) (k n : Nat) (h : f x = zeros k) :
    (List.replicate n x).flatMap f = zeros (n * k) := by
  induction n with
  | zero => simp
  | succ n ih =>
    rw [List.replicate_succ, List.flatMap_cons, ih, h, Nat.succ_mul, Nat.add_comm, zeros_add]

theorem flatMap_toLE_replicate_zero (size k : Nat) :
    ((List.replicate k 0).flatMap fun v => toLE size v) = zeros (k * size) :=
  flatMap_replicate_zeros _ 0 size k (toLE_zero size)

/-- `pack_ints_to_chunks` is the spec `pack` of the concatenated little-endian encodings -/
theorem packInts_eq_bytesToChunks (size : Nat)
    (hs : size = 1 ∨ size = 2 ∨ size = 4 ∨ size = 8 ∨ size = 16 ∨ size = 32) (ns : List Nat) :
    packInts size ns = bytesToChunks (ns.flatMap fun v => toLE size v) := by
  have hper : 0 < 32 / size := by rcases hs with rfl | rfl | rfl | rfl | rfl | rfl <;> decide
  have hmul : 32 / size * size = 32 := by rcases hs with rfl | rfl | rfl | rfl | rfl | rfl <;> decide
  have hsz : 0 < size := by omega
  unfold packInts
  simp only
  induction ns using groups_induct hper with
  | hnil => rfl
  | hstep ns hne ih =>
    have hpos : 0 < ns.length := List.length_pos_iff.mpr hne
    rw [groups_of_ne_nil hper hne, List.map_cons, ih]
    by_cases hle : 32 / size ≤ ns.length
    · -- a full first chunk
      have htl : (ns.take (32 / size)).length = 32 / size := by
        simp only [List.length_take]; omega
      have hz : 32 / size - (ns.take (32 / size)).length = 0 := by omega
      rw [hz, List.replicate_zero, List.append_nil]
      conv => rhs; rw [← List.take_append_drop (32 / size) ns, List.flatMap_append]
      have hl32 : ((ns.take (32 / size)).flatMap fun v => toLE size v).length = 32 := by
        rw [flatMap_length_const _ size _ fun v _ => toLE_length size v, htl, hmul]
      conv => rhs; rw [bytesToChunks, groups_append_of_length_eq (by decide : 0 < 32) _ _ hl32,
        List.map_cons, padRight_of_length_ge _ _ (by omega)]
      rfl
    · have hlt : ns.length < 32 / size := by omega
      have ht : ns.take (32 / size) = ns := List.take_of_length_le (by omega)
      have hd : ns.drop (32 / size) = [] := List.drop_of_length_le (by omega)
      rw [ht, hd]
      simp only [List.flatMap_nil, bytesToChunks_nil]
      have hl : (ns.flatMap fun v => toLE size v).length = ns.length * size :=
        flatMap_length_const _ size ns fun v _ => toLE_length size v
      have hlt32 : ns.length * size < 32 := by
        rw [← hmul]; exact Nat.mul_lt_mul_of_pos_right hlt hsz
      have hpos' : 0 < ns.length * size := Nat.mul_pos hpos hsz
      rw [bytesToChunks, groups_single (by omega) (by omega)]
      simp only [List.map_cons, List.map_nil, List.flatMap_append, flatMap_toLE_replicate_zero,
        padRight, hl]
      congr 3
      rw [Nat.sub_mul, hmul]

theorem serialize_basic (et : Ty) (v : Val) (hb : et.isBasic = true) (hwt : WT et v = true) :
    Spec.serialize et v = toLE et.basicSize (numOf v) := by
  obtain ⟨x, rfl, hx⟩ := WT_basic hb hwt
  cases et <;> cases hb
  · rfl
  · have hx : x < 256 := hx
    rw [serialize, Ty.basicSize, numOf, toLE_succ, Nat.mod_eq_of_lt hx]
    rfl

/-- `pack_ints_to_chunks` of the numbers of well-typed basic values is the spec `pack` of their
    concatenated serializations -/
theorem packInts_eq_pack (et : Ty) (vs : List Val) (hb : et.isBasic = true) (hwf : et.wf = true)
    (hwt : ∀ v ∈ vs, WT et v = true) :
    packInts et.basicSize (vs.map numOf) = Spec.pack (vs.flatMap fun v => Spec.serialize et v) := by
  have e : (vs.flatMap fun v => Spec.serialize et v)
      = (vs.map numOf).flatMap fun n => toLE et.basicSize n := by
    induction vs with
    | nil => rfl
    | cons v vs ih =>
      rw [List.flatMap_cons, List.map_cons, List.flatMap_cons,
        serialize_basic et v hb (hwt v (List.mem_cons_self ..)),
        ih fun w hw => hwt w (List.mem_cons_of_mem _ hw)]
  rw [e, Spec.pack, packInts_eq_bytesToChunks _ (basicSize_cases et hwf hb)]

theorem map_root_map_leaf (H : Hash) (cs : List Chunk) :
    (cs.map Node.leaf).map (·.root H) = cs := by
  induction cs with
  | nil => rfl
  | cons c cs ih => simp only [List.map_cons, Node.root, ih]

theorem chunkOfLE_32 (n : Nat) : chunkOfLE 32 n = toLE 32 n :=
  padRight_of_length_ge _ _ (by simp)

theorem lenNode_root (H : Hash) (n : Nat) : (lenNode n).root H = toLE 32 n := by
  simp [lenNode, Node.root, chunkOfLE_32]

theorem mixInNode_root (H : Hash) (c : Node) (n : Nat) :
    (mixInNode c n).root H = Spec.mixIn H (c.root H) n := by
  simp [mixInNode, Node.root, Spec.mixIn, lenNode_root]

theorem getDepth_one : getDepth 1 = 0 := by simp [getDepth]

theorem packInts_length (size : Nat) (hper : 0 < 32 / size) (ns : List Nat) :
    (packInts size ns).length = (ns.length + 32 / size - 1) / (32 / size) := by
  unfold packInts
  simp only [List.length_map, groups_length hper]

end Rmk.ConstructRoot

namespace Rmk.DefaultNode
open Rmk Rmk.Impl Rmk.Spec

theorem take_zeros (m n : Nat) : (zeros n).take m = zeros (min m n) := by
  simp [zeros, List.take_replicate]

theorem drop_zeros (m n : Nat) : (zeros n).drop m = zeros (n - m) := by
  simp [zeros, List.drop_replicate]

theorem padRight_zeros (m n : Nat) (h : m ≤ n) : padRight (zeros m) n = zeros n := by
  rw [padRight, zeros_length, ← zeros_add, Nat.add_sub_cancel' h]

/-- every window of zero bytes pads to the zero chunk -/
theorem bytesToChunks_zeros (n : Nat) :
    bytesToChunks (zeros n) = List.replicate ((n + 31) / 32) zeroChunk := by
  rw [bytesToChunks, groups_eq_range_map (by decide), List.map_map, zeros_length,
    List.map_congr_left (g := fun _ => zeroChunk) fun i _ => by
      rw [Function.comp, drop_zeros, take_zeros, padRight_zeros _ _ (Nat.min_le_left ..)]
      rfl,
    List.map_const', List.length_range]
  rfl

/-- every window of false bits is the zero byte -/
theorem bitsToBytes_replicate_false (n : Nat) :
    bitsToBytes (List.replicate n false) = zeros ((n + 7) / 8) := by
  rw [bitsToBytes, groups_eq_range_map (by decide), List.map_map,
    List.length_replicate,
    List.map_congr_left (g := fun _ => (0 : UInt8)) fun i _ => by
      rw [Function.comp, List.drop_replicate, List.take_replicate, bitsToNat_replicate_false]
      rfl,
    List.map_const', List.length_range]
  rfl

theorem pack_zeros (n : Nat) : pack (zeros n) = List.replicate ((n + 31) / 32) zeroChunk :=
  bytesToChunks_zeros n

theorem pack_bits_zero (n : Nat) :
    pack (bitsToBytes (List.replicate n false)) = List.replicate ((n + 255) / 256) zeroChunk := by
  rw [bitsToBytes_replicate_false, pack_zeros, cdiv_8_cdiv_32]

theorem packed_chunk_lt (et : Ty) (hwf : et.wf = true) (hb : et.isBasic = true) (len i : Nat)
    (hi : i < len) :
    i / (32 / et.basicSize) < chunkLen et len ∧ i % (32 / et.basicSize) < 32 / et.basicSize := by
  rw [chunkLen, if_pos hb]
  exact ⟨div_lt_cdiv (per_pos et hwf hb) hi, Nat.mod_lt _ (per_pos et hwf hb)⟩

end Rmk.DefaultNode
