import Rmk.Model.Tree
namespace Rmk

theorem bitLength_zero : bitLength 0 = 0 := by simp [bitLength]

theorem bitLength_pos {n : Nat} (h : n ≠ 0) : bitLength n = Nat.log2 n + 1 := by simp [bitLength, h]

theorem bitLength_le_iff (x w : Nat) : bitLength x ≤ w ↔ x < 2 ^ w := by
  by_cases hx : x = 0
  · subst hx; simp [bitLength, Nat.two_pow_pos]
  · rw [bitLength_pos hx, Nat.add_one_le_iff, Nat.log2_lt hx]

theorem bitLength_lt_two_pow (x : Nat) : x < 2 ^ bitLength x := (bitLength_le_iff x _).1 (Nat.le_refl _)

theorem bitLength_two_mul {g : Nat} (h : g ≠ 0) : bitLength (2 * g) = bitLength g + 1 := by
  rw [bitLength_pos h, bitLength_pos (Nat.mul_ne_zero (by decide) h), Nat.log2_two_mul h]

theorem two_mul_add_one_div_two (n : Nat) : (2 * n + 1) / 2 = n :=
  (Nat.mul_add_div (by decide : 0 < 2) n 1).trans (Nat.add_zero n)

theorem bitLength_two_mul_add_one (g : Nat) : bitLength (2 * g + 1) = bitLength g + 1 := by
  by_cases h : g = 0
  · subst h; simp [bitLength, Nat.log2_def]
  · have h2 : 2 ≤ 2 * g + 1 := Nat.le_succ_of_le (Nat.le_mul_of_pos_right 2 (Nat.pos_of_ne_zero h))
    rw [bitLength_pos h, bitLength_pos (Nat.succ_ne_zero _), Nat.log2_def, if_pos h2,
      two_mul_add_one_div_two]

theorem bitLength_one : bitLength 1 = 1 := by
  have := bitLength_two_mul_add_one 0
  simpa [bitLength_zero] using this

theorem pbits_length (k i : Nat) : (pbits k i).length = k := by
  induction k with
  | zero => rfl
  | succ k ih => simp [pbits, ih]

/-- the path of `i` in a depth-`a+b` subtree: first the path of the depth-`b` block holding `i`
    among the blocks, then the path of `i` within its block -/
theorem pbits_add (a b i : Nat) : pbits (a + b) i = pbits a (i / 2 ^ b) ++ pbits b i := by
  induction a with
  | zero => rw [Nat.zero_add]; rfl
  | succ a ih =>
    rw [Nat.add_right_comm, pbits, pbits, ih, Nat.div_div_eq_div_mul, ← Nat.pow_add,
      Nat.add_comm b a]
    rfl

theorem take_pbits_add (a b i : Nat) : (pbits (a + b) i).take a = pbits a (i / 2 ^ b) := by
  rw [pbits_add, List.take_left' (pbits_length a _)]

theorem pbits_succ_two_mul (k i : Nat) : pbits (k + 1) (2 * i) = pbits k i ++ [false] := by
  rw [pbits_add, Nat.pow_one, Nat.mul_div_cancel_left i (by decide : 0 < 2)]
  simp [pbits]

theorem pbits_succ_two_mul_add_one (k i : Nat) :
    pbits (k + 1) (2 * i + 1) = pbits k i ++ [true] := by
  rw [pbits_add, Nat.pow_one, two_mul_add_one_div_two]
  simp [pbits]

theorem pbits_add_mul (k i j : Nat) : pbits k (i + 2 ^ k * j) = pbits k i := by
  induction k generalizing j with
  | zero => rfl
  | succ k ih =>
    have h : i + 2 ^ (k + 1) * j = i + 2 ^ k * (2 * j) := by rw [Nat.pow_succ, Nat.mul_assoc]
    rw [pbits, pbits, h, ih, Nat.add_mul_div_left _ _ (Nat.two_pow_pos k), Nat.add_mul_mod_self_left]

@[simp] theorem gbits_one : gbits 1 = [] := by
  simp [gbits, bitLength, Nat.log2_def, pbits]

theorem gbits_two_mul {g : Nat} (h : g ≠ 0) : gbits (2 * g) = gbits g ++ [false] := by
  unfold gbits
  rw [bitLength_two_mul h, bitLength_pos h, Nat.add_sub_cancel, Nat.add_sub_cancel,
    pbits_succ_two_mul]

theorem gbits_two_mul_add_one {g : Nat} (h : g ≠ 0) : gbits (2 * g + 1) = gbits g ++ [true] := by
  unfold gbits
  rw [bitLength_two_mul_add_one, bitLength_pos h, Nat.add_sub_cancel, Nat.add_sub_cancel,
    pbits_succ_two_mul_add_one]

theorem rev_ind {α} {P : List α → Prop} (hnil : P [])
    (hsnoc : ∀ l a, P l → P (l ++ [a])) : ∀ l, P l := by
  intro l
  rw [← List.reverse_reverse l]
  induction l.reverse with
  | nil => simpa using hnil
  | cons a t ih => simpa using hsnoc _ a ih

theorem gindexOfPath_append (p : List Bool) (b : Bool) :
    gindexOfPath (p ++ [b]) = 2 * gindexOfPath p + (if b then 1 else 0) := by
  simp [gindexOfPath, List.foldl_append]

theorem gindexOfPath_pos (p : List Bool) : gindexOfPath p ≠ 0 := by
  induction p using rev_ind with
  | hnil => simp [gindexOfPath]
  | hsnoc p b ih =>
    rw [gindexOfPath_append]
    exact Nat.ne_of_gt (Nat.lt_of_lt_of_le (Nat.mul_pos Nat.two_pos (Nat.pos_of_ne_zero ih))
      (Nat.le_add_right _ _))

theorem gbits_gindexOfPath (p : List Bool) : gbits (gindexOfPath p) = p := by
  induction p using rev_ind with
  | hnil => simp [gindexOfPath]
  | hsnoc p b ih =>
    rw [gindexOfPath_append]
    cases b
    · simp [gbits_two_mul (gindexOfPath_pos p), ih]
    · simp [gbits_two_mul_add_one (gindexOfPath_pos p), ih]

theorem gindex_induction {P : Nat → Prop} (h1 : P 1)
    (h2 : ∀ g, g ≠ 0 → P g → P (2 * g)) (h3 : ∀ g, g ≠ 0 → P g → P (2 * g + 1)) :
    ∀ g, g ≠ 0 → P g := by
  intro g
  induction g using Nat.strongRecOn with
  | _ g ih =>
    intro hg
    by_cases hone : g = 1
    · subst hone; exact h1
    · have hne : g / 2 ≠ 0 := by omega
      have ih' := ih (g / 2) (Nat.div_lt_self (Nat.pos_of_ne_zero hg) (by decide)) hne
      have e := Nat.div_add_mod g 2
      rcases Nat.mod_two_eq_zero_or_one g with hm | hm <;> rw [hm] at e
      · exact e ▸ h2 _ hne ih'
      · exact e ▸ h3 _ hne ih'

theorem gindexOfPath_gbits {g : Nat} (h : g ≠ 0) : gindexOfPath (gbits g) = g := by
  refine gindex_induction (P := fun g => gindexOfPath (gbits g) = g) ?_ ?_ ?_ g h
  · simp [gindexOfPath]
  · intro g hg ih; simp only [gbits_two_mul hg, gindexOfPath_append, ih]; simp
  · intro g hg ih; simp only [gbits_two_mul_add_one hg, gindexOfPath_append, ih]; simp

theorem bitLength_two_pow_add (d i : Nat) (h : i < 2 ^ d) : bitLength (2 ^ d + i) = d + 1 := by
  have hne : 2 ^ d + i ≠ 0 := Nat.ne_of_gt (Nat.add_pos_left (Nat.two_pow_pos d) i)
  rw [bitLength_pos hne, (Nat.log2_eq_iff hne).2 ⟨Nat.le_add_right _ _, ?_⟩]
  rw [Nat.two_pow_succ]
  exact Nat.add_lt_add_left h _

/-- `to_gindex(i, d)` is `2^d + i`, defined for `i < 2^d` -/
theorem toGindex_eq_some {i d g : Nat} : toGindex i d = some g ↔ i < 2 ^ d ∧ g = 2 ^ d + i := by
  rw [toGindex]
  by_cases h : i < 2 ^ d
  · rw [if_neg (Nat.not_le.2 h), Option.some.injEq]
    exact Iff.intro (fun e => ⟨h, e.symm⟩) (fun e => e.2.symm)
  · rw [if_pos (Nat.not_lt.1 h)]
    exact Iff.intro (fun e => nomatch e) (fun e => absurd e.1 h)

theorem toGindex_of_lt {i d : Nat} (h : i < 2 ^ d) : toGindex i d = some (2 ^ d + i) :=
  toGindex_eq_some.2 ⟨h, rfl⟩

/-- `to_gindex(i, d)` addresses the path `pbits d i` -/
theorem gbits_toGindex (i d g : Nat) (h : toGindex i d = some g) : gbits g = pbits d i := by
  obtain ⟨hlt, rfl⟩ := toGindex_eq_some.1 h
  rw [gbits, bitLength_two_pow_add d i hlt, Nat.add_sub_cancel, Nat.add_comm, ← Nat.mul_one (2 ^ d),
    pbits_add_mul]

theorem gbits_two : gbits 2 = [false] := gbits_two_mul (g := 1) (by decide)

theorem gbits_three : gbits 3 = [true] := gbits_two_mul_add_one (g := 1) (by decide)

theorem getter_two (l r : Node) : getter (.pair l r) 2 = some l := by
  simp [getter, gbits_two, getPath]

theorem getter_three (l r : Node) : getter (.pair l r) 3 = some r := by
  simp [getter, gbits_three, getPath]

theorem getter_one (n : Node) : getter n 1 = some n := by
  simp [getter, getPath]

end Rmk
