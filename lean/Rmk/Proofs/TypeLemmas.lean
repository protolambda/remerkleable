import Rmk.Model.Types
import Rmk.Proofs.BytesLemmas
namespace Rmk

theorem WT_uint_inv {nb : Nat} {v : Val} (h : WT (.uint nb) v = true) :
    ∃ n, v = .num n ∧ n < 2 ^ (8 * nb) := by
  cases v with
  | num n => exact ⟨n, rfl, of_decide_eq_true h⟩
  | _ => cases h

theorem WT_bool_inv {v : Val} (h : WT .bool v = true) : ∃ n, v = .num n ∧ n < 2 := by
  cases v with
  | num n => exact ⟨n, rfl, of_decide_eq_true h⟩
  | _ => cases h

theorem WT_bitvector_inv {n : Nat} {v : Val} (h : WT (.bitvector n) v = true) :
    ∃ bs, v = .bits bs ∧ bs.length = n := by
  cases v with
  | bits bs => exact ⟨bs, rfl, eq_of_beq h⟩
  | _ => cases h

theorem WT_bitlist_inv {lim : Nat} {v : Val} (h : WT (.bitlist lim) v = true) :
    ∃ bs, v = .bits bs ∧ bs.length ≤ lim := by
  cases v with
  | bits bs => exact ⟨bs, rfl, of_decide_eq_true h⟩
  | _ => cases h

theorem WT_bytevector_inv {n : Nat} {v : Val} (h : WT (.bytevector n) v = true) :
    ∃ bs, v = .bytes bs ∧ bs.length = n := by
  cases v with
  | bytes bs => exact ⟨bs, rfl, eq_of_beq h⟩
  | _ => cases h

theorem WT_bytelist_inv {lim : Nat} {v : Val} (h : WT (.bytelist lim) v = true) :
    ∃ bs, v = .bytes bs ∧ bs.length ≤ lim := by
  cases v with
  | bytes bs => exact ⟨bs, rfl, of_decide_eq_true h⟩
  | _ => cases h

theorem WT_vector_inv {t : Ty} {n : Nat} {v : Val} (h : WT (.vector t n) v = true) :
    ∃ vs, v = .seq vs ∧ vs.length = n ∧ ∀ w ∈ vs, WT t w = true := by
  cases v with
  | seq vs =>
    have h := Bool.and_eq_true_iff.1 h
    exact ⟨vs, rfl, eq_of_beq h.1, List.all_eq_true.1 h.2⟩
  | _ => cases h

theorem WT_list_inv {t : Ty} {lim : Nat} {v : Val} (h : WT (.list t lim) v = true) :
    ∃ vs, v = .seq vs ∧ vs.length ≤ lim ∧ ∀ w ∈ vs, WT t w = true := by
  cases v with
  | seq vs =>
    have h := Bool.and_eq_true_iff.1 h
    exact ⟨vs, rfl, of_decide_eq_true h.1, List.all_eq_true.1 h.2⟩
  | _ => cases h

theorem WT_container_inv {fs : List Ty} {v : Val} (h : WT (.container fs) v = true) :
    ∃ vs, v = .seq vs ∧ WTs fs vs = true := by
  cases v with
  | seq vs => exact ⟨vs, rfl, h⟩
  | _ => cases h

theorem WT_union_inv {hn : Bool} {opts : List Ty} {v : Val} (h : WT (.union hn opts) v = true) :
    ∃ sel w, v = .un sel w ∧
      if (hn && sel == 0) = true then w = .none else WTopt opts (optIndex hn sel) w = true := by
  cases v with
  | un sel w =>
    refine ⟨sel, w, rfl, ?_⟩
    simp only [WT] at h
    by_cases hc : (hn && sel == 0) = true
    · rw [if_pos hc] at h ⊢
      cases w <;> first | rfl | cases h
    · rw [if_neg hc] at h ⊢
      exact h
  | _ => cases h

theorem WTopt_lt {opts : List Ty} {k : Nat} {v : Val} (h : WTopt opts k v = true) :
    k < opts.length := by
  induction opts generalizing k with
  | nil => cases h
  | cons t ts ih =>
    cases k with
    | zero => exact Nat.zero_lt_succ _
    | succ k => exact Nat.succ_lt_succ (ih h)

theorem Ty.wf_union_count {hn : Bool} {opts : List Ty} (h : (Ty.union hn opts).wf = true) :
    optCount hn opts ≤ 128 :=
  of_decide_eq_true
    (Bool.and_eq_true_iff.1 (Bool.and_eq_true_iff.1 (Bool.and_eq_true_iff.1 h).1).1).2

/-- at most 128 options: a selector fits the 32-byte mix-in leaf -/
theorem sel_lt_of_wf {hn : Bool} {opts : List Ty} {sel : Nat}
    (hwf : (Ty.union hn opts).wf = true) (h : sel < optCount hn opts) : sel < 2 ^ 256 :=
  Nat.lt_of_lt_of_le h (Nat.le_trans (Ty.wf_union_count hwf) (by decide))

theorem WT_union_sel_lt {hn : Bool} {opts : List Ty} {sel : Nat} {v : Val}
    (h : WT (.union hn opts) (.un sel v) = true) : sel < optCount hn opts := by
  simp only [WT] at h
  -- in each case `h` computes to `WTopt opts i v = true` for the option index `i`
  cases hn with
  | false =>
    unfold optCount; rw [if_neg Bool.false_ne_true, Nat.zero_add]
    exact WTopt_lt h
  | true =>
    unfold optCount; rw [if_pos rfl, Nat.add_comm]
    cases sel with
    | zero => exact Nat.succ_pos _
    | succ k => exact Nat.succ_lt_succ (WTopt_lt (k := k) h)

theorem WT_basic {t : Ty} {v : Val} (hb : t.isBasic = true) (h : WT t v = true) :
    ∃ x, v = .num x ∧ x < 256 ^ t.basicSize := by
  cases t <;> cases hb
  · obtain ⟨x, rfl, hx⟩ := WT_uint_inv h
    exact ⟨x, rfl, pow_256_eq _ ▸ hx⟩
  · obtain ⟨x, rfl, hx⟩ := WT_bool_inv h
    exact ⟨x, rfl, Nat.lt_of_lt_of_le hx (by decide)⟩

theorem WTs_nil_inv {vs : List Val} (h : WTs [] vs = true) : vs = [] := by
  cases vs with
  | nil => rfl
  | cons v vs => cases h

theorem WTs_cons_inv {t : Ty} {ts : List Ty} {vs : List Val} (h : WTs (t :: ts) vs = true) :
    ∃ w ws, vs = w :: ws ∧ WT t w = true ∧ WTs ts ws = true := by
  cases vs with
  | nil => cases h
  | cons w ws => exact ⟨w, ws, rfl, Bool.and_eq_true_iff.1 h⟩

theorem Ty.wf_vector {t : Ty} {n : Nat} (h : (Ty.vector t n).wf = true) : 0 < n ∧ t.wf = true := by
  have h := Bool.and_eq_true_iff.1 h
  exact ⟨of_decide_eq_true h.1, h.2⟩

theorem Ty.wf_list {t : Ty} {lim : Nat} (h : (Ty.list t lim).wf = true) : t.wf = true :=
  h

theorem Ty.wf_container {fs : List Ty} (h : (Ty.container fs).wf = true) :
    fs ≠ [] ∧ Ty.wfList fs = true := by
  simpa only [Ty.wf, Bool.and_eq_true, Bool.not_eq_true', List.isEmpty_eq_false_iff] using h

theorem Ty.wfList_cons {t : Ty} {ts : List Ty} (h : Ty.wfList (t :: ts) = true) :
    t.wf = true ∧ Ty.wfList ts = true :=
  Bool.and_eq_true_iff.1 h

theorem wfList_getElem? (fs : List Ty) (h : Ty.wfList fs = true) (i : Nat) (t : Ty)
    (ht : fs[i]? = some t) : t.wf = true := by
  induction fs generalizing i with
  | nil => simp at ht
  | cons f fs ih =>
    unfold Ty.wfList at h; simp at h
    cases i with
    | zero => simp at ht; subst ht; exact h.1
    | succ j => simp at ht; exact ih h.2 j ht

theorem Ty.wf_union {hn : Bool} {opts : List Ty} (h : (Ty.union hn opts).wf = true) :
    opts ≠ [] ∧ Ty.wfList opts = true := by
  unfold Ty.wf optCount at h; simp only [Bool.and_eq_true] at h
  refine ⟨?_, h.2⟩
  rintro rfl
  cases hn <;> simp at h

theorem ty_induction {P : Ty → Prop} (uint : ∀ nb, P (.uint nb)) (bool : P .bool)
    (bitvector : ∀ len, P (.bitvector len)) (bitlist : ∀ lim, P (.bitlist lim))
    (bytevector : ∀ len, P (.bytevector len)) (bytelist : ∀ lim, P (.bytelist lim))
    (vector : ∀ et len, P et → P (.vector et len)) (list : ∀ et lim, P et → P (.list et lim))
    (container : ∀ fs, (∀ t ∈ fs, P t) → P (.container fs))
    (union : ∀ hasNone opts, (∀ t ∈ opts, P t) → P (.union hasNone opts)) (t : Ty) : P t :=
  Ty.rec (motive_1 := P) (motive_2 := fun fs => ∀ t ∈ fs, P t)
    uint bool bitvector bitlist bytevector bytelist vector list container union
    (fun _ h => nomatch h)
    (fun _ _ iht ihts t' h => (List.mem_cons.1 h).elim (fun e => e ▸ iht) (ihts t'))
    t

end Rmk
