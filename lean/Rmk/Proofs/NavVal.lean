/-
Value-dependent navigation (`Path.navigate_view(value)`, `Path.gindex(value)`): following element /
field index keys IN A VALUE agrees with the static generalized index of the key path (computed from
the type alone) and with the value's content.  Generic in the pair hash `H`.
-/
import Rmk.Proofs.ConstructRoot
import Rmk.Proofs.Gindex
import Rmk.Proofs.ListRel
import Rmk.Proofs.PathAddress
import Rmk.Proofs.PathGindex
import Rmk.Proofs.ReprBasics
namespace Rmk.NavVal
open Rmk Rmk.Impl Rmk.Spec
open Rmk.ReprBasics

/-- the sub-value (with its type) that a key sequence addresses IN A VALUE by view navigation: element / field index
    steps only — the pseudo keys and union steps are not view navigations -/
def navVal : Ty → Val → List Key → Option (Ty × Val)
  | t, v, [] => some (t, v)
  | t, v, .idx i :: rest =>
    match t with
    | .union _ _ => none
    | _ =>
      match PathAddress.subVal t v (.idx i) with
      | some (some t', v') => navVal t' v' rest
      | _ => none
  | _, _, _ => none

/-- one view-navigation step: element / field `i` of a non-union value -/
def navStep : Ty → Val → Nat → Option (Ty × Val)
  | .union _ _, _, _ => none
  | t, v, i =>
    match PathAddress.subVal t v (.idx i) with
    | some (some t', v') => some (t', v')
    | _ => none

/-- every step of the navigation addresses a node of its own (no position inside a packed chunk);
    follows the same navigation as `navVal` (the answer is `true` where `navVal` stops) -/
def allUnpacked : Ty → Val → List Key → Bool
  | _, _, [] => true
  | t, v, k :: rest =>
    PathAddress.unpackedKey t k &&
      match navStep t v (match k with | .idx i => i | _ => 0) with
      | some (t', v') => allUnpacked t' v' rest
      | none => true

theorem navVal_nil (t : Ty) (v : Val) : navVal t v [] = some (t, v) := by
  unfold navVal; simp only

theorem navVal_len (t : Ty) (v : Val) (rest : List Key) : navVal t v (.len :: rest) = none := by
  unfold navVal; simp only

theorem navVal_sel (t : Ty) (v : Val) (rest : List Key) : navVal t v (.sel :: rest) = none := by
  unfold navVal; simp only

theorem navVal_cons (t : Ty) (v : Val) (i : Nat) (rest : List Key) :
    navVal t v (.idx i :: rest) = (navStep t v i).bind fun p => navVal p.1 p.2 rest := by
  have key : ∀ o : Option (Option Ty × Val),
      (match o with
        | some (some t', v') => navVal t' v' rest
        | _ => none) =
      (match o with
        | some (some t', v') => some (t', v')
        | _ => none).bind fun p => navVal p.1 p.2 rest := by
    rintro (_ | ⟨_ | _, _⟩) <;> rfl
  cases t <;> first | rfl | exact key _

theorem navStep_of_not_union {t : Ty} (hu : ∀ b o, t ≠ .union b o) (v : Val) (i : Nat) :
    navStep t v i =
      match PathAddress.subVal t v (.idx i) with
      | some (some t', v') => some (t', v')
      | _ => none := by
  cases t <;> first | rfl | exact absurd rfl (hu _ _)

theorem navStep_iff {t : Ty} {v : Val} {i : Nat} {t' : Ty} {v' : Val} :
    navStep t v i = some (t', v') ↔
      PathAddress.subVal t v (.idx i) = some (some t', v') ∧ ∀ b o, t ≠ .union b o := by
  constructor
  · intro h
    have hu : ∀ b o, t ≠ .union b o := by rintro b o rfl; cases h
    rw [navStep_of_not_union hu] at h
    cases hs : PathAddress.subVal t v (.idx i) with
    | none => rw [hs] at h; cases h
    | some p =>
      obtain ⟨_ | _, _⟩ := p <;> rw [hs] at h <;> cases h
      exact ⟨rfl, hu⟩
  · rintro ⟨hs, hu⟩
    rw [navStep_of_not_union hu, hs]

theorem navStep_of_subVal {t : Ty} {v : Val} {i : Nat} {t' : Ty} {v' : Val}
    (h : PathAddress.subVal t v (.idx i) = some (some t', v')) (hu : ∀ b o, t ≠ .union b o) :
    navStep t v i = some (t', v') :=
  navStep_iff.2 ⟨h, hu⟩

theorem navVal_cons_eq_some {t : Ty} {v : Val} {k : Key} {ks : List Key} {r : Ty × Val}
    (h : navVal t v (k :: ks) = some r) :
    ∃ i t1 v1, k = .idx i ∧ navStep t v i = some (t1, v1) ∧ navVal t1 v1 ks = some r := by
  cases k with
  | len => rw [navVal_len] at h; cases h
  | sel => rw [navVal_sel] at h; cases h
  | idx i =>
    rw [navVal_cons, Option.bind_eq_some_iff] at h
    obtain ⟨p, hs, h⟩ := h
    exact ⟨i, p.1, p.2, rfl, hs, h⟩

theorem navVal_append (t : Ty) (v : Val) (ks ks' : List Key) :
    navVal t v (ks ++ ks') = (navVal t v ks).bind fun p => navVal p.1 p.2 ks' := by
  induction ks generalizing t v with
  | nil => simp [navVal_nil]
  | cons k ks ih =>
    cases k with
    | len => simp [navVal_len]
    | sel => simp [navVal_sel]
    | idx i =>
      rw [List.cons_append, navVal_cons, navVal_cons]
      cases h : navStep t v i with
      | none => simp
      | some p => simp [ih]

theorem navVal_subValPath (t : Ty) (v : Val) (keys : List Key) (t' : Ty) (v' : Val)
    (hn : navVal t v keys = some (t', v')) (hu : allUnpacked t v keys = true) :
    PathAddress.subValPath (some t) v keys = some (some t', v') := by
  induction keys generalizing t v with
  | nil =>
    rw [navVal_nil] at hn
    cases hn
    rfl
  | cons k ks ih =>
    obtain ⟨i, t1, v1, rfl, hs, h1⟩ := navVal_cons_eq_some hn
    unfold allUnpacked at hu; simp only [hs, Bool.and_eq_true] at hu
    unfold PathAddress.subValPath; simp only [hu.1, if_true, (navStep_iff.1 hs).1]
    exact ih t1 v1 h1 hu.2

/-- the converse, for index-only key sequences that do not pass through a union: a value path
    (in the sense of `subValPath`) is a view navigation -/
theorem subValPath_navVal (t : Ty) (v : Val) (keys : List Key) (t' : Ty) (v' : Val)
    (hp : PathAddress.subValPath (some t) v keys = some (some t', v'))
    (hn : (navVal t v keys).isSome = true) :
    navVal t v keys = some (t', v') ∧ allUnpacked t v keys = true := by
  induction keys generalizing t v with
  | nil =>
    cases hp
    exact ⟨navVal_nil _ _, rfl⟩
  | cons k ks ih =>
    obtain ⟨r, hr⟩ := Option.isSome_iff_exists.1 hn
    obtain ⟨i, t1, v1, rfl, hs, h1⟩ := navVal_cons_eq_some hr
    unfold PathAddress.subValPath at hp
    split at hp
    · next hu =>
      simp only [(navStep_iff.1 hs).1] at hp
      obtain ⟨h1', h2⟩ := ih t1 v1 hp (by rw [h1]; rfl)
      exact ⟨by rw [navVal_cons, hs]; exact h1', by unfold allUnpacked; simp [hu, hs, h2]⟩
    · cases hp

/-! ## the node at the static index has the root of the navigated sub-value

`C08.addresses` assumes `limitsOk` (all limits `< 2^256`) because of the `'__len__'` key; a view
navigation has element / field keys only, so the bound is not needed. -/

theorem navVal_no_len {t : Ty} {v : Val} {keys : List Key} {r : Ty × Val}
    (h : navVal t v keys = some r) : Key.len ∉ keys := by
  induction keys generalizing t v with
  | nil => exact List.not_mem_nil
  | cons k ks ih =>
    obtain ⟨i, t1, v1, rfl, _, h1⟩ := navVal_cons_eq_some h
    intro hm
    rcases List.mem_cons.1 hm with hk | hk
    · cases hk
    · exact ih h1 hk

/-- the static index of a navigable, unpacked key sequence exists, the node there represents the
    navigated sub-value and has its hash-tree-root -/
theorem navVal_addresses_repr_nolimit (H : Hash) (t : Ty) (v : Val) (n : Node) (keys : List Key)
    (t' : Ty) (v' : Val) (hr : Impl.Repr H t v n) (hwf : t.wf = true)
    (hn : navVal t v keys = some (t', v')) (hu : allUnpacked t v keys = true) :
    ∃ g m, Impl.pathGindex t keys = some g ∧ getter n g = some m ∧ Impl.Repr H t' v' m ∧
      m.root H = Spec.htr H t' v' := by
  obtain ⟨g, m, hg, _, hm, hrm, hwf'⟩ :=
    PathAddress.path_addresses_gen H keys t v n 1 n t' v' hr hwf
      (fun h => absurd h (navVal_no_len hn)) (navVal_subValPath t v keys t' v' hn hu) (by decide)
      (getter_one n)
  exact ⟨g, m, pathGindex_eq_some.2 ⟨_, hg⟩, hm, hrm, repr_root H t' v' m hwf' hrm⟩

/-- the view found by value-dependent navigation has the root that the node at the STATIC index has -/
theorem navVal_addresses_nolimit (H : Hash) (t : Ty) (v : Val) (n : Node) (keys : List Key)
    (t' : Ty) (v' : Val) (g : Nat) (hr : Impl.Repr H t v n) (hwf : t.wf = true)
    (hn : navVal t v keys = some (t', v')) (hu : allUnpacked t v keys = true)
    (hg : Impl.pathGindex t keys = some g) :
    ∃ m, getter n g = some m ∧ m.root H = Spec.htr H t' v' := by
  obtain ⟨g', m, hg', hm, _, hroot⟩ := navVal_addresses_repr_nolimit H t v n keys t' v' hr hwf hn hu
  cases hg.symm.trans hg'
  exact ⟨m, hm, hroot⟩

theorem navVal_addresses (H : Hash) (t : Ty) (v : Val) (n : Node) (keys : List Key)
    (t' : Ty) (v' : Val) (g : Nat) (hr : Impl.Repr H t v n) (hwf : t.wf = true)
    (_ : limitsOk t = true)
    (hn : navVal t v keys = some (t', v')) (hu : allUnpacked t v keys = true)
    (hg : Impl.pathGindex t keys = some g) :
    ∃ m, getter n g = some m ∧ m.root H = Spec.htr H t' v' :=
  navVal_addresses_nolimit H t v n keys t' v' g hr hwf hn hu hg

/-- the same for the constructor tree of the value -/
theorem navVal_addresses_construct (H : Hash) (t : Ty) (v : Val) (n : Node) (keys : List Key)
    (t' : Ty) (v' : Val) (g : Nat) (hc : Impl.construct H t v = some n) (hwf : t.wf = true)
    (hlim : limitsOk t = true)
    (hn : navVal t v keys = some (t', v')) (hu : allUnpacked t v keys = true)
    (hg : Impl.pathGindex t keys = some g) :
    ∃ m, getter n g = some m ∧ m.root H = Spec.htr H t' v' :=
  navVal_addresses H t v n keys t' v' g (construct_repr H t v n hwf hc) hwf hlim hn hu hg

/-- a step to a packed position ends in a basic type -/
theorem navStep_packed_basic {t : Ty} {v : Val} {i : Nat} {t' : Ty} {v' : Val}
    (h : navStep t v i = some (t', v')) (hu : PathAddress.unpackedKey t (.idx i) = false) :
    t'.isBasic = true ∧ ∃ cs per, PathAddress.packedChunks t v = some (cs, per) := by
  have hs := (navStep_iff.1 h).1
  generalize hk : Key.idx i = k at hs hu
  fun_cases PathAddress.subVal t v k
  case case15 =>
    -- no pattern of `subVal` applies: rewrite with its catch-all equation, whose side conditions
    -- are the hypotheses of this case
    rw [PathAddress.subVal] at hs
    · cases hs
    all_goals assumption
  case case2 | case7 | case10 | case14 => cases hk
  case case4 | case5 | case12 | case13 => cases hu
  case case1 | case3 =>
    obtain ⟨_, he⟩ := map_getElem?_eq_some hs
    cases he
    have hb : t'.isBasic = true := by simpa [PathAddress.unpackedKey] using hu
    exact ⟨hb, _, _, if_pos hb⟩
  all_goals
    obtain ⟨_, he⟩ := map_getElem?_eq_some hs
    cases he
    exact ⟨rfl, _, _, rfl⟩

theorem navVal_basic_none (t : Ty) (v : Val) (k : Key) (ks : List Key) (hb : t.isBasic = true) :
    navVal t v (k :: ks) = none := by
  cases h : navVal t v (k :: ks) with
  | none => rfl
  | some r =>
    obtain ⟨i, t1, v1, rfl, hs, _⟩ := navVal_cons_eq_some h
    have hsv := (navStep_iff.1 hs).1
    cases t with
    | uint nb => cases v <;> cases hsv
    | bool => cases v <;> cases hsv
    | _ => cases hb

/-- a packed step can only be the LAST step of a successful navigation: a successful navigation is
    either unpacked throughout, or it is an unpacked navigation followed by one packed step -/
theorem navVal_packed_only_last (t : Ty) (v : Val) (keys : List Key) (t' : Ty) (v' : Val)
    (hn : navVal t v keys = some (t', v')) :
    allUnpacked t v keys = true ∨
      ∃ ks i t1 v1, keys = ks ++ [.idx i] ∧ navVal t v ks = some (t1, v1) ∧
        allUnpacked t v ks = true ∧ PathAddress.unpackedKey t1 (.idx i) = false := by
  induction keys generalizing t v with
  | nil => left; unfold allUnpacked; simp
  | cons k ks ih =>
    obtain ⟨i, t1, v1, rfl, hs, hn⟩ := navVal_cons_eq_some hn
    cases hu : PathAddress.unpackedKey t (.idx i) with
    | false =>
      right
      have hb := (navStep_packed_basic hs hu).1
      cases ks with
      | nil => exact ⟨[], i, t, v, rfl, navVal_nil _ _, rfl, hu⟩
      | cons k' ks' => rw [navVal_basic_none t1 v1 k' ks' hb] at hn; cases hn
    | true =>
      rcases ih t1 v1 hn with h | ⟨ks0, j, t2, v2, rfl, hn2, hu2, hpk⟩
      · left; unfold allUnpacked; simp [hu, hs, h]
      · right
        refine ⟨.idx i :: ks0, j, t2, v2, rfl, ?_, ?_, hpk⟩
        · rw [navVal_cons, hs]; exact hn2
        · unfold allUnpacked; simp [hu, hs, hu2]

/-- the packed last step without the bound on the limits -/
theorem navVal_packed_last_nolimit (H : Hash) (t : Ty) (v : Val) (n : Node) (ks : List Key)
    (i : Nat) (t1 : Ty) (v1 : Val) (t' : Ty) (v' : Val) (cs : List Chunk) (per : Nat)
    (hr : Impl.Repr H t v n) (hwf : t.wf = true)
    (hks : navVal t v ks = some (t1, v1)) (hu : allUnpacked t v ks = true)
    (hp : PathAddress.packedChunks t1 v1 = some (cs, per))
    (hn : navVal t v (ks ++ [.idx i]) = some (t', v')) :
    ∃ g, ∃ hj : i / per < cs.length, Impl.pathGindex t (ks ++ [.idx i]) = some g ∧
      getter n g = some (.leaf cs[i / per]) ∧
      PathAddress.elemOfChunk H t1 cs[i / per] i = some v' := by
  rw [navVal_append, hks, Option.bind_some] at hn
  obtain ⟨_, t2, v2, hk, hs, hn⟩ := navVal_cons_eq_some hn
  cases hk
  cases hn
  exact PathAddress.path_packed_addresses_gen H t v n ks t1 v1 i cs per (some t') v' hr hwf
    (fun h => absurd h (navVal_no_len hks)) (navVal_subValPath t v ks t1 v1 hks hu) hp
    (navStep_iff.1 hs).1

/-- Packed last step: an unpacked navigation to `v1 : t1` followed by an element key addressing a
    position inside a chunk of `v1` (element of a packed list / vector, bit, byte): the navigated
    value has a basic type, the chunks of `v1` exist, the static index of the whole key sequence
    exists and the node there is the leaf chunk that holds the element, from which the element
    decodes (conclusion of `C08.addresses_packed`). -/
theorem navVal_packed_last' (H : Hash) (t : Ty) (v : Val) (n : Node) (ks : List Key) (i : Nat)
    (t1 : Ty) (v1 : Val) (t' : Ty) (v' : Val)
    (hr : Impl.Repr H t v n) (hwf : t.wf = true) (hlim : limitsOk t = true)
    (hks : navVal t v ks = some (t1, v1)) (hu : allUnpacked t v ks = true)
    (hpk : PathAddress.unpackedKey t1 (.idx i) = false)
    (hn : navVal t v (ks ++ [.idx i]) = some (t', v')) :
    t'.isBasic = true ∧
    ∃ cs per, PathAddress.packedChunks t1 v1 = some (cs, per) ∧
    ∃ g, ∃ hj : i / per < cs.length, Impl.pathGindex t (ks ++ [.idx i]) = some g ∧
      getter n g = some (.leaf cs[i / per]) ∧
      PathAddress.elemOfChunk H t1 cs[i / per] i = some v' := by
  rw [navVal_append, hks, Option.bind_some] at hn
  obtain ⟨_, t2, v2, hk, hs, hn⟩ := navVal_cons_eq_some hn
  cases hk
  cases hn
  obtain ⟨hb, cs, per, hp⟩ := navStep_packed_basic hs hpk
  exact ⟨hb, cs, per, hp, PathAddress.path_packed_addresses H t v n ks t1 v1 i cs per (some t') v'
    hr hwf hlim (navVal_subValPath t v ks t1 v1 hks hu) hp (navStep_iff.1 hs).1⟩

/-! ## positions at or beyond the LENGTH are not navigable, whatever the limit is -/

theorem navVal_list_out_of_range (et : Ty) (lim : Nat) (vs : List Val) (i : Nat) (rest : List Key)
    (h : vs.length ≤ i) : navVal (.list et lim) (.seq vs) (.idx i :: rest) = none := by
  rw [navVal_cons]
  simp [navStep, PathAddress.subVal, List.getElem?_eq_none h]

theorem navVal_bitlist_out_of_range (lim : Nat) (bs : List Bool) (i : Nat) (rest : List Key)
    (h : bs.length ≤ i) : navVal (.bitlist lim) (.bits bs) (.idx i :: rest) = none := by
  rw [navVal_cons]
  simp [navStep, PathAddress.subVal, List.getElem?_eq_none h]

theorem navVal_bytelist_out_of_range (lim : Nat) (bs : List UInt8) (i : Nat) (rest : List Key)
    (h : bs.length ≤ i) : navVal (.bytelist lim) (.bytes bs) (.idx i :: rest) = none := by
  rw [navVal_cons]
  simp [navStep, PathAddress.subVal, List.getElem?_eq_none h]

/-- …and conversely a list position below the length IS navigable (to the element) -/
theorem navVal_list_in_range (et : Ty) (lim : Nat) (vs : List Val) (i : Nat) (rest : List Key)
    (h : i < vs.length) :
    navVal (.list et lim) (.seq vs) (.idx i :: rest) = navVal et vs[i] rest := by
  rw [navVal_cons]
  simp [navStep, PathAddress.subVal, List.getElem?_eq_getElem h]

section Examples

private def tL : Ty := .list (.container [.uint 1, .uint 2]) 8
private def vL : Val :=
  .seq [.seq [.num 1, .num 10], .seq [.num 2, .num 20], .seq [.num 3, .num 30]]
private def Htoy : Hash := fun a b => a ++ b

example : tL.wf = true ∧ limitsOk tL = true ∧ WT tL vL = true := by decide +kernel

/-- key `[2, 1]` navigates to the uint16 field of element 2 -/
example : navVal tL vL [.idx 2, .idx 1] = some (.uint 2, .num 30) := by rfl
example : ((navVal tL vL [.idx 2, .idx 1]).any fun p => p.1.basicSize == 2 && p.2 == .num 30) = true := by
  decide +kernel
example : allUnpacked tL vL [.idx 2, .idx 1] = true := by decide +kernel

/-- key `[3]` is within the limit but beyond the length: not navigable in the value, although the
    static index exists -/
example : navVal tL vL [.idx 3] = none := by decide +kernel
example : (Impl.pathGindex tL [.idx 3]).isSome = true := by decide +kernel
example : Impl.pathGindex tL [.idx 3] = some 19 := by decide +kernel
example : Impl.pathGindex tL [.idx 8] = none := by decide +kernel

/-- the hypotheses of `navVal_addresses` are satisfiable (toy hash) -/
example : ∃ n g m, Impl.construct Htoy tL vL = some n ∧ Impl.pathGindex tL [.idx 2, .idx 1] = some g ∧
    getter n g = some m ∧ m.root Htoy = Spec.htr Htoy (.uint 2) (.num 30) := by
  obtain ⟨n, hc, hr⟩ := ConstructRoot.repr_exists Htoy tL vL (by decide +kernel) (by decide +kernel)
  obtain ⟨g, m, hg, hm, _, hroot⟩ :=
    navVal_addresses_repr_nolimit Htoy tL vL n [.idx 2, .idx 1] (.uint 2) (.num 30) hr (by decide +kernel)
      (by rfl) (by decide +kernel)
  exact ⟨n, g, m, hc, hg, hm, hroot⟩

/-- a packed last step: element 37 of a `List[uint16, 100]` field -/
example : navVal (.container [.uint 8, .list (.uint 2) 100])
    (.seq [.num 7, .seq ((List.range 40).map .num)]) [.idx 1, .idx 37] = some (.uint 2, .num 37) := by
  rfl

end Examples

end Rmk.NavVal
