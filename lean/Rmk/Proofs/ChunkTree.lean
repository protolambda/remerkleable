/-
The ChunkTree library: structural facts about `IsZero` / `ChunkTree` (Rmk/Impl/Repr.lean) and their
interaction with the tree operations (`getPath`, `setPath`, `summarizePath`, `fillToContents`,
`fillToLength`, `Impl.getAt`, `Impl.setAt`, `Impl.climb`), with the facts about `pbits` and the position
number `pnum` of a path that these need.  Everything is generic in the hash `H`.
-/
import Rmk.Impl.Repr
import Rmk.Impl.View
import Rmk.Proofs.Gindex
import Rmk.Proofs.Merkleize
import Rmk.Proofs.TreeLaws
namespace Rmk.ChunkTreeLemmas
open Rmk Rmk.Impl

theorem isZero_root {H : Hash} {d : Nat} {n : Node} (h : IsZero H d n) : n.root H = zeroHash H d := by
  induction h with
  | summary d => rfl
  | pair d l r _ _ ihl ihr => simp [Node.root, ihl, ihr, zeroHash]

theorem isZero_leaf_iff (H : Hash) (d : Nat) (c : Chunk) : IsZero H d (.leaf c) ↔ c = zeroHash H d := by
  constructor
  · intro h
    cases h
    rfl
  · rintro rfl
    exact .summary d

theorem isZero_pair_iff (H : Hash) (d : Nat) (l r : Node) :
    IsZero H (d + 1) (.pair l r) ↔ IsZero H d l ∧ IsZero H d r := by
  constructor
  · intro h
    cases h with
    | pair _ _ _ hl hr => exact ⟨hl, hr⟩
  · rintro ⟨hl, hr⟩
    exact .pair d l r hl hr

theorem not_isZero_zero_pair (H : Hash) (l r : Node) : ¬ IsZero H 0 (.pair l r) := by
  intro h
  cases h

theorem isZero_zero_iff (H : Hash) (n : Node) : IsZero H 0 n ↔ n = zeroNode H 0 := by
  constructor
  · intro h
    cases h
    rfl
  · rintro rfl
    exact .summary 0

theorem ct_nil_iff (H : Hash) (d : Nat) (n : Node) : ChunkTree H d [] n ↔ IsZero H d n := by
  cases d with
  | zero =>
    unfold ChunkTree; simp only [true_and]
    constructor
    · rintro (h | h)
      · exact h
      · cases h
    · exact fun h => .inl h
  | succ d => unfold ChunkTree; simp

theorem isZero_of_ct_nil {H : Hash} {d : Nat} {n : Node} (h : ChunkTree H d [] n) : IsZero H d n :=
  (ct_nil_iff H d n).1 h

theorem ct_nil_of_isZero {H : Hash} {d : Nat} {n : Node} (h : IsZero H d n) : ChunkTree H d [] n :=
  (ct_nil_iff H d n).2 h

theorem ct_zero (H : Hash) (d : Nat) : ChunkTree H d [] (zeroNode H d) :=
  ct_nil_of_isZero (.summary d)

theorem ct_zero_iff (H : Hash) (ls : List Node) (n : Node) :
    ChunkTree H 0 ls n ↔ (ls = [] ∧ IsZero H 0 n) ∨ ls = [n] := by
  unfold ChunkTree; simp

theorem ct_singleton (H : Hash) (x : Node) : ChunkTree H 0 [x] x := by
  unfold ChunkTree; simp

theorem ct_zero_singleton_iff (H : Hash) (x n : Node) : ChunkTree H 0 [x] n ↔ n = x := by
  unfold ChunkTree; simp [eq_comm]

/-- uniform unfolding at a pair node (also covers the empty / all-zero case) -/
theorem ct_pair_iff (H : Hash) (d : Nat) (ls : List Node) (l r : Node) :
    ChunkTree H (d + 1) ls (.pair l r) ↔
      ls.length ≤ 2 ^ (d + 1) ∧ ChunkTree H d (ls.take (2 ^ d)) l ∧ ChunkTree H d (ls.drop (2 ^ d)) r := by
  by_cases hnil : ls = []
  · subst hnil
    simp [ChunkTree, isZero_pair_iff, ct_nil_iff]
  · simp only [ChunkTree, hnil, false_and, false_or, ne_eq, not_false_eq_true, true_and]
    constructor
    · rintro ⟨hlen, l', r', heq, hl, hr⟩
      cases heq
      exact ⟨hlen, hl, hr⟩
    · rintro ⟨hlen, hl, hr⟩
      exact ⟨hlen, l, r, rfl, hl, hr⟩

theorem ct_leaf_succ_iff (H : Hash) (d : Nat) (ls : List Node) (c : Chunk) :
    ChunkTree H (d + 1) ls (.leaf c) ↔ ls = [] ∧ c = zeroHash H (d + 1) := by
  unfold ChunkTree; simp [isZero_leaf_iff]

theorem ct_length_le {H : Hash} {d : Nat} {ls : List Node} {n : Node} (h : ChunkTree H d ls n) :
    ls.length ≤ 2 ^ d := by
  cases d with
  | zero =>
    rcases (ct_zero_iff H ls n).1 h with ⟨rfl, _⟩ | rfl <;> simp
  | succ d =>
    unfold ChunkTree at h
    rcases h with ⟨rfl, _⟩ | ⟨_, hlen, _⟩
    · simp
    · exact hlen

theorem ct_succ_ne_nil {H : Hash} {d : Nat} {ls : List Node} {n : Node}
    (h : ChunkTree H (d + 1) ls n) (hne : ls ≠ []) :
    ∃ l r, n = .pair l r ∧ ChunkTree H d (ls.take (2 ^ d)) l ∧ ChunkTree H d (ls.drop (2 ^ d)) r := by
  unfold ChunkTree at h; simp only [hne, false_and, false_or] at h
  exact h.2.2

theorem ct_root {H : Hash} {d : Nat} {ls : List Node} {n : Node} (h : ChunkTree H d ls n) :
    n.root H = Spec.merkleize H (ls.map (·.root H)) d := by
  induction d generalizing ls n with
  | zero =>
    rcases (ct_zero_iff H ls n).1 h with ⟨rfl, hz⟩ | rfl
    · rw [isZero_root hz]; simp [merkleize_nil]
    · rfl
  | succ d ih =>
    by_cases hnil : ls = []
    · subst hnil
      rw [isZero_root (isZero_of_ct_nil h)]; simp [merkleize_nil]
    · have hlen := ct_length_le h
      obtain ⟨l, r, rfl, hl, hr⟩ := ct_succ_ne_nil h hnil
      rw [merkleize_split H _ d (by simpa using hlen)]
      simp [Node.root, ih hl, ih hr, List.map_take, List.map_drop]

theorem ct_root_unique {H : Hash} {d : Nat} {ls : List Node} {n n' : Node}
    (h : ChunkTree H d ls n) (h' : ChunkTree H d ls n') : n.root H = n'.root H := by
  rw [ct_root h, ct_root h']

theorem ct_fill_exists (H : Hash) (nodes : List Node) (d : Nat) (h : nodes.length ≤ 2 ^ d) :
    ∃ n, fillToContents H nodes d = some n ∧ ChunkTree H d nodes n := by
  induction d generalizing nodes with
  | zero =>
    match nodes, h with
    | [], _ => exact ⟨_, fillToContents_nil H 0, ct_zero H 0⟩
    | [a], _ => exact ⟨a, rfl, ct_singleton H a⟩
    | _ :: _ :: _, h => simp at h
  | succ d ih =>
    by_cases hne : nodes = []
    · subst hne
      exact ⟨_, fillToContents_nil H _, ct_zero H _⟩
    · obtain ⟨l, hl, hlt⟩ := ih (nodes.take (2 ^ d)) (List.length_take_le _ _)
      obtain ⟨r, hr, hrt⟩ := ih (nodes.drop (2 ^ d)) (by
        rw [List.length_drop]
        exact Nat.sub_le_of_le_add (Nat.two_pow_succ d ▸ h))
      refine ⟨.pair l r, ?_, (ct_pair_iff H d nodes l r).2 ⟨h, hlt, hrt⟩⟩
      rw [fillToContents_succ H d hne h, hl, hr]
      rfl

/-- `subtree_fill_to_contents` builds a chunk tree of its input -/
theorem ct_fill {H : Hash} {ls : List Node} {d : Nat} {n : Node}
    (h : fillToContents H ls d = some n) : ChunkTree H d ls n := by
  by_cases hle : ls.length ≤ 2 ^ d
  · obtain ⟨n', hn', hct⟩ := ct_fill_exists H ls d hle
    cases h.symm.trans hn'
    exact hct
  · rw [fillToContents_none H ls d (Nat.lt_of_not_le hle)] at h
    cases h

theorem ct_fillToDepth (H : Hash) (b : Node) (d : Nat) :
    ChunkTree H d (List.replicate (2 ^ d) b) (fillToDepth b d) :=
  ct_fill (fillToContents_replicate_full H b d)

theorem ct_fillToLength_exists (H : Hash) (b : Node) (d len : Nat) (h : len ≤ 2 ^ d) :
    ∃ n, fillToLength H b d len = some n ∧ ChunkTree H d (List.replicate len b) n := by
  rw [fillToLength_eq_fillToContents]
  exact ct_fill_exists H _ d (by rwa [List.length_replicate])

/-- `subtree_fill_to_length` builds a chunk tree of `len` copies of the bottom node -/
theorem ct_fillToLength {H : Hash} {b : Node} {d len : Nat} {n : Node}
    (h : fillToLength H b d len = some n) : ChunkTree H d (List.replicate len b) n :=
  ct_fill (by rwa [← fillToLength_eq_fillToContents])

theorem pbits_succ_lt {d i : Nat} (h : i < 2 ^ d) : pbits (d + 1) i = false :: pbits d i := by
  simp [pbits, Nat.div_eq_of_lt h]

theorem pbits_succ_ge {d i : Nat} (h1 : 2 ^ d ≤ i) (h2 : i < 2 ^ (d + 1)) :
    pbits (d + 1) i = true :: pbits d (i - 2 ^ d) := by
  rw [Nat.two_pow_succ] at h2
  have hdiv : i / 2 ^ d = 1 := Nat.div_eq_of_lt_le (by rwa [Nat.one_mul]) (by rwa [Nat.succ_mul, Nat.one_mul])
  rw [pbits, hdiv, ← pbits_add_mul d (i - 2 ^ d) 1, Nat.mul_one, Nat.sub_add_cancel h1]
  rfl

theorem pbits_zero_eq (d : Nat) : pbits d 0 = List.replicate d false := by
  induction d with
  | zero => rfl
  | succ d ih => rw [pbits_succ_lt (Nat.two_pow_pos d), ih]; rfl

/-- the number spelled by a path, most significant bit first: the index (among the nodes of its
    level) of the node the path leads to -/
def pnum : List Bool → Nat
  | [] => 0
  | b :: p => (if b then 2 ^ p.length else 0) + pnum p

@[simp] theorem pnum_nil : pnum [] = 0 := rfl
@[simp] theorem pnum_cons (b : Bool) (p : List Bool) :
    pnum (b :: p) = (if b then 2 ^ p.length else 0) + pnum p := rfl

theorem pnum_lt (p : List Bool) : pnum p < 2 ^ p.length := by
  induction p with
  | nil => exact Nat.one_pos
  | cons b p ih =>
    rw [pnum_cons, List.length_cons, Nat.two_pow_succ]
    cases b
    · exact Nat.lt_of_le_of_lt (Nat.le_of_eq (Nat.zero_add _)) (Nat.lt_add_left _ ih)
    · exact Nat.add_lt_add_left ih _

/-- the bottom positions below the node at path `p`, `k` levels above the bottom, end inside the
    tree -/
theorem pnum_mul_add_le (p : List Bool) (k : Nat) :
    pnum p * 2 ^ k + 2 ^ k ≤ 2 ^ (p.length + k) := by
  rw [Nat.pow_add, ← Nat.succ_mul]
  exact Nat.mul_le_mul_right _ (pnum_lt p)

theorem pnum_pbits {d i : Nat} (h : i < 2 ^ d) : pnum (pbits d i) = i := by
  induction d generalizing i with
  | zero => exact (Nat.lt_one_iff.1 h).symm
  | succ d ih =>
    by_cases hlt : i < 2 ^ d
    · rw [pbits_succ_lt hlt, pnum_cons, ih hlt]
      exact Nat.zero_add _
    · rw [Nat.two_pow_succ] at h
      rw [pbits_succ_ge (Nat.le_of_not_lt hlt) (by rwa [Nat.two_pow_succ]), pnum_cons,
        ih (Nat.sub_lt_left_of_lt_add (Nat.le_of_not_lt hlt) h),
        pbits_length, if_pos rfl, Nat.add_sub_cancel' (Nat.le_of_not_lt hlt)]

theorem pnum_append_replicate_false (p : List Bool) (j : Nat) :
    pnum (p ++ List.replicate j false) = pnum p * 2 ^ j := by
  induction p with
  | nil =>
    induction j with
    | zero => rfl
    | succ j ih => simpa [List.replicate_succ] using ih
  | cons b p ih =>
    simp only [List.cons_append, pnum_cons, ih, List.length_append, List.length_replicate]
    cases b <;> simp [Nat.add_mul, Nat.pow_add]

theorem _root_.Rmk.Impl.getAt_of_lt (n : Node) {i d : Nat} (h : i < 2 ^ d) :
    getAt n i d = getPath n (pbits d i) :=
  if_neg (Nat.not_le.2 h)

theorem _root_.Rmk.Impl.getAt_of_ge (n : Node) {i d : Nat} (h : 2 ^ d ≤ i) : getAt n i d = none :=
  if_pos h

theorem _root_.Rmk.Impl.setAt_of_lt (H : Hash) (e : Bool) (n : Node) {i d : Nat} (h : i < 2 ^ d)
    (v : Node) : setAt H e n i d v = setPath H e n (pbits d i) v :=
  if_neg (Nat.not_le.2 h)

theorem _root_.Rmk.Impl.setAt_of_ge (H : Hash) (e : Bool) (n : Node) {i d : Nat} (h : 2 ^ d ≤ i)
    (v : Node) : setAt H e n i d v = none :=
  if_pos h

/-- The subtree reached by a path `p` is the chunk tree of the slice of the data below it: with the
    node `k` levels above the bottom, the `2^k` positions from `pnum p * 2^k` on. -/
theorem ct_getPath_slice {H : Hash} (p : List Bool) {k : Nat} {ls : List Node} {n : Node}
    (h : ChunkTree H (p.length + k) ls n) {m : Node} (hg : getPath n p = some m) :
    ChunkTree H k ((ls.drop (pnum p * 2 ^ k)).take (2 ^ k)) m := by
  induction p generalizing ls n with
  | nil =>
    rw [getPath_nil] at hg
    cases hg
    rw [List.length_nil, Nat.zero_add] at h
    simpa [List.take_of_length_le (ct_length_le h)] using h
  | cons b p ih =>
    rw [List.length_cons, Nat.add_right_comm] at h
    cases n with
    | leaf c => cases hg
    | pair l r =>
      obtain ⟨_, hl, hr⟩ := (ct_pair_iff H _ ls l r).1 h
      rw [getPath_pair_cons] at hg
      cases b with
      | false =>
        have := ih hl hg
        rw [List.drop_take, List.take_take,
          Nat.min_eq_left (Nat.le_sub_of_add_le' (pnum_mul_add_le p k))] at this
        simpa using this
      | true =>
        have := ih hr hg
        rw [List.drop_drop] at this
        rwa [pnum_cons, if_pos rfl, Nat.add_mul, ← Nat.pow_add]

theorem lt_length_take {α} {l : List α} {i k : Nat} (hk : i < k) (hi : i < l.length) :
    i < (l.take k).length := by
  rw [List.length_take]
  exact Nat.lt_min.2 ⟨hk, hi⟩

theorem sub_lt_length_drop {α} {l : List α} {i k : Nat} (hk : k ≤ i) (hi : i < l.length) :
    i - k < (l.drop k).length := by
  rw [List.length_drop]
  exact Nat.sub_lt_sub_right hk hi

theorem ct_get_path {H : Hash} {d : Nat} {ls : List Node} {n : Node} (h : ChunkTree H d ls n)
    {i : Nat} (hi : i < ls.length) : getPath n (pbits d i) = some ls[i] := by
  induction d generalizing ls n i with
  | zero =>
    rcases (ct_zero_iff H ls n).1 h with ⟨rfl, _⟩ | rfl
    · cases hi
    · cases Nat.lt_one_iff.1 hi
      exact getPath_nil n
  | succ d ih =>
    obtain ⟨l, r, rfl, hl, hr⟩ := ct_succ_ne_nil h (List.ne_nil_of_length_pos (Nat.zero_lt_of_lt hi))
    by_cases hlt : i < 2 ^ d
    · rw [pbits_succ_lt hlt, getPath_pair_cons, if_neg Bool.false_ne_true,
        ih hl (lt_length_take hlt hi), List.getElem_take]
    · have hge := Nat.le_of_not_lt hlt
      rw [pbits_succ_ge hge (Nat.lt_of_lt_of_le hi (ct_length_le h)), getPath_pair_cons, if_pos rfl,
        ih hr (sub_lt_length_drop hge hi), List.getElem_drop]
      simp only [Nat.add_sub_cancel' hge]

/-- `getter(to_gindex(i, depth))` on a chunk tree returns the `i`-th node -/
theorem ct_get {H : Hash} {d : Nat} {ls : List Node} {n : Node} (h : ChunkTree H d ls n)
    {i : Nat} (hi : i < ls.length) : Impl.getAt n i d = some ls[i] := by
  rw [getAt_of_lt n (Nat.lt_of_lt_of_le hi (ct_length_le h))]
  exact ct_get_path h hi

/-- position `i` of a chunk tree `c` of depth `d`, read through `n`: `c` itself, or `c` with a
    length mixed in (one level deeper, `getAt_mixin`) -/
theorem ct_get_through {H : Hash} {ls : List Node} {n c : Node} {d d' : Nat}
    (hn : ∀ i, i < 2 ^ d → Impl.getAt n i d' = Impl.getAt c i d) (hct : ChunkTree H d ls c) {i : Nat}
    (hi : i < ls.length) : Impl.getAt n i d' = some ls[i] := by
  rw [hn i (Nat.lt_of_lt_of_le hi (ct_length_le hct)), ct_get hct hi]

theorem ct_get_none_beyond {H : Hash} {d : Nat} {ls : List Node} {n : Node} (h : ChunkTree H d ls n)
    {i : Nat} (hi : ls.length ≤ i) :
    Impl.getAt n i d = none ∨ ∃ m, Impl.getAt n i d = some m ∧ IsZero H 0 m := by
  by_cases hlt : i < 2 ^ d
  · cases hg : Impl.getAt n i d with
    | none => exact .inl rfl
    | some m =>
      refine .inr ⟨m, rfl, isZero_of_ct_nil ?_⟩
      rw [getAt_of_lt n hlt] at hg
      have := ct_getPath_slice (k := 0) (pbits d i) (by rwa [pbits_length]) hg
      rwa [pnum_pbits hlt, Nat.pow_zero, Nat.mul_one, List.drop_of_length_le hi] at this
  · exact .inl (getAt_of_ge n (Nat.le_of_not_lt hlt))

theorem ct_set_path {H : Hash} {d : Nat} {ls : List Node} {n : Node} (h : ChunkTree H d ls n)
    {i : Nat} (hi : i < ls.length) (e : Bool) (x : Node) :
    ∃ n', setPath H e n (pbits d i) x = some n' ∧ ChunkTree H d (ls.set i x) n' := by
  induction d generalizing ls n i with
  | zero =>
    rcases (ct_zero_iff H ls n).1 h with ⟨rfl, _⟩ | rfl
    · cases hi
    · cases Nat.lt_one_iff.1 hi
      exact ⟨x, setPath_nil H e n x, ct_singleton H x⟩
  | succ d ih =>
    have hlen : (ls.set i x).length ≤ 2 ^ (d + 1) := by
      rw [List.length_set]
      exact ct_length_le h
    obtain ⟨l, r, rfl, hl, hr⟩ := ct_succ_ne_nil h (List.ne_nil_of_length_pos (Nat.zero_lt_of_lt hi))
    by_cases hlt : i < 2 ^ d
    · obtain ⟨l', hs, hct⟩ := ih hl (lt_length_take hlt hi)
      refine ⟨.pair l' r, ?_, (ct_pair_iff H d _ l' r).2 ⟨hlen, ?_, ?_⟩⟩
      · rw [pbits_succ_lt hlt, setPath_pair_cons, if_neg Bool.false_ne_true, hs]
        rfl
      · rwa [List.take_set]
      · rwa [List.drop_set, if_pos hlt]
    · have hge := Nat.le_of_not_lt hlt
      obtain ⟨r', hs, hct⟩ := ih hr (sub_lt_length_drop hge hi)
      refine ⟨.pair l r', ?_, (ct_pair_iff H d _ l r').2 ⟨hlen, ?_, ?_⟩⟩
      · rw [pbits_succ_ge hge (Nat.lt_of_lt_of_le hi (ct_length_le h)), setPath_pair_cons, if_pos rfl,
          hs]
        rfl
      · rwa [List.take_set, List.set_eq_of_length_le (Nat.le_trans (List.length_take_le _ _) hge)]
      · rwa [List.drop_set, if_neg hlt]

theorem ct_setAt {H : Hash} {d : Nat} {ls : List Node} {n : Node} (h : ChunkTree H d ls n)
    {i : Nat} (hi : i < ls.length) (e : Bool) (x : Node) :
    ∃ n', Impl.setAt H e n i d x = some n' ∧ ChunkTree H d (ls.set i x) n' := by
  rw [setAt_of_lt H e n (Nat.lt_of_lt_of_le hi (ct_length_le h))]
  exact ct_set_path h hi e x

/-- `setter(to_gindex(i, depth))(x)` on a data position -/
theorem ct_set {H : Hash} {d : Nat} {ls : List Node} {n : Node} (h : ChunkTree H d ls n)
    {i : Nat} (hi : i < ls.length) (x : Node) :
    ∃ n', Impl.setAt H false n i d x = some n' ∧ ChunkTree H d (ls.set i x) n' :=
  ct_setAt h hi false x

/-- the same with `expand = True` -/
theorem ct_set_expand {H : Hash} {d : Nat} {ls : List Node} {n : Node} (h : ChunkTree H d ls n)
    {i : Nat} (hi : i < ls.length) (x : Node) :
    ∃ n', Impl.setAt H true n i d x = some n' ∧ ChunkTree H d (ls.set i x) n' :=
  ct_setAt h hi true x

/-- the expansion of a zero summary along the leftmost path holds exactly the written node -/
theorem ct_expandSet (H : Hash) (d : Nat) (x : Node) :
    ChunkTree H d [x] (expandSet H (pbits d 0) x) := by
  induction d with
  | zero => exact ct_singleton H x
  | succ d ih =>
    have hp : [x].length ≤ 2 ^ d := Nat.two_pow_pos d
    rw [pbits_succ_lt (Nat.two_pow_pos d)]
    simp only [expandSet, Bool.false_eq_true, if_false, pbits_length]
    rw [ct_pair_iff, List.take_of_length_le hp, List.drop_of_length_le hp]
    exact ⟨Nat.le_trans hp (Nat.pow_le_pow_right Nat.two_pos (Nat.le_succ d)), ih, ct_zero H d⟩

theorem ct_push_path {H : Hash} {d : Nat} {ls : List Node} {n : Node} (h : ChunkTree H d ls n)
    (hlen : ls.length < 2 ^ d) (x : Node) :
    ∃ n', setPath H true n (pbits d ls.length) x = some n' ∧ ChunkTree H d (ls ++ [x]) n' := by
  induction d generalizing ls n with
  | zero =>
    cases List.eq_nil_of_length_eq_zero (Nat.lt_one_iff.1 hlen)
    exact ⟨x, setPath_nil H true n x, ct_singleton H x⟩
  | succ d ih =>
    have hlen' : (ls ++ [x]).length ≤ 2 ^ (d + 1) := by
      rw [List.length_append]
      exact hlen
    cases n with
    | leaf c =>
      obtain ⟨rfl, rfl⟩ := (ct_leaf_succ_iff H d ls c).1 h
      refine ⟨expandSet H (pbits (d + 1) 0) x, ?_, ct_expandSet H (d + 1) x⟩
      simp [pbits, pbits_length]
    | pair l r =>
      obtain ⟨_, hl, hr⟩ := (ct_pair_iff H d ls l r).1 h
      by_cases hlt : ls.length < 2 ^ d
      · have hle := Nat.le_of_lt hlt
        rw [List.take_of_length_le hle] at hl
        rw [List.drop_of_length_le hle] at hr
        obtain ⟨l', hs, hct⟩ := ih hl hlt
        refine ⟨.pair l' r, ?_, (ct_pair_iff H d _ l' r).2 ⟨hlen', ?_, ?_⟩⟩
        · rw [pbits_succ_lt hlt, setPath_pair_cons, if_neg Bool.false_ne_true, hs]
          rfl
        · rwa [List.take_of_length_le (by rw [List.length_append]; exact hlt)]
        · rwa [List.drop_of_length_le (by rw [List.length_append]; exact hlt)]
      · have hge := Nat.le_of_not_lt hlt
        obtain ⟨r', hs, hct⟩ := ih hr (by
          rw [List.length_drop]
          exact Nat.sub_lt_left_of_lt_add hge (Nat.two_pow_succ d ▸ hlen))
        rw [List.length_drop] at hs
        refine ⟨.pair l r', ?_, (ct_pair_iff H d _ l r').2 ⟨hlen', ?_, ?_⟩⟩
        · rw [pbits_succ_ge hge hlen, setPath_pair_cons, if_pos rfl, hs]
          rfl
        · rwa [List.take_append_of_le_length hge]
        · rwa [List.drop_append_of_le_length hge]

/-- append by `setter(to_gindex(len, depth), expand=True)(x)`: every leaf met above the target is
    the zero summary of exactly the remaining height, so the zero-checked expansion succeeds. -/
theorem ct_push {H : Hash} {d : Nat} {ls : List Node} {n : Node} (h : ChunkTree H d ls n)
    (hlen : ls.length < 2 ^ d) (x : Node) :
    ∃ n', Impl.setAt H true n ls.length d x = some n' ∧ ChunkTree H d (ls ++ [x]) n' := by
  rw [setAt_of_lt H true n hlen]
  exact ct_push_path h hlen x

/-- Writing an all-zero subtree at a path `p` whose subtree covers the end of the data truncates the
    data to the positions left of that subtree (`k` is the height of the subtree, `pnum p * 2^k` the
    leftmost bottom position below `p`).  Covers both zeroing the last element and summarising a
    subtree beyond the data. -/
theorem ct_setPath_zero_trunc {H : Hash} (p : List Bool) {k : Nat} {ls : List Node} {n : Node}
    (h : ChunkTree H (p.length + k) ls n) {z : Node} (hz : IsZero H k z)
    (hcover : ls.length ≤ pnum p * 2 ^ k + 2 ^ k) {n' : Node}
    (hs : setPath H false n p z = some n') :
    ChunkTree H (p.length + k) (ls.take (pnum p * 2 ^ k)) n' := by
  induction p generalizing ls n n' with
  | nil =>
    rw [setPath_nil] at hs
    cases hs
    simpa using ct_nil_of_isZero hz
  | cons b p ih =>
    rw [List.length_cons, Nat.add_right_comm] at h ⊢
    have hbound := pnum_mul_add_le p k
    cases n with
    | leaf c => simp at hs
    | pair l r =>
      obtain ⟨hlen, hl, hr⟩ := (ct_pair_iff H _ ls l r).1 h
      have hlen' : ∀ j, (ls.take j).length ≤ 2 ^ (p.length + k + 1) := fun j =>
        Nat.le_trans (List.length_take_le' j ls) hlen
      rw [setPath_pair_cons] at hs
      cases b with
      | false =>
        -- the data ends in the left half
        simp only [Bool.false_eq_true, if_false, Option.map_eq_some_iff] at hs
        obtain ⟨l', hs', rfl⟩ := hs
        rw [pnum_cons, if_neg Bool.false_ne_true, Nat.zero_add] at hcover ⊢
        have hfit : ls.length ≤ 2 ^ (p.length + k) := Nat.le_trans hcover hbound
        rw [List.take_of_length_le hfit] at hl
        rw [List.drop_of_length_le hfit] at hr
        rw [ct_pair_iff, List.take_take,
          Nat.min_eq_right (Nat.le_trans (Nat.le_add_right _ _) hbound),
          List.drop_of_length_le (Nat.le_trans (List.length_take_le' _ ls) hfit)]
        exact ⟨hlen' _, ih hl hcover hs', hr⟩
      | true =>
        simp only [if_true, Option.map_eq_some_iff] at hs
        obtain ⟨r', hs', rfl⟩ := hs
        rw [pnum_cons, if_pos rfl, Nat.add_mul, ← Nat.pow_add] at hcover ⊢
        have := ih hr (by rwa [List.length_drop, Nat.sub_le_iff_le_add', ← Nat.add_assoc]) hs'
        rw [ct_pair_iff, List.take_take, List.drop_take, Nat.min_eq_left (Nat.le_add_right _ _),
          Nat.add_sub_cancel_left]
        exact ⟨hlen' _, hl, this⟩

/-- overwriting the last data position with any all-zero bottom node removes it from the data -/
theorem ct_set_zero_last_path {H : Hash} {d : Nat} {ls : List Node} {n : Node}
    (h : ChunkTree H d ls n) (hne : ls ≠ []) {z : Node} (hz : IsZero H 0 z) :
    ∃ n1, setPath H false n (pbits d (ls.length - 1)) z = some n1 ∧
      ChunkTree H d ls.dropLast n1 := by
  have hi : ls.length - 1 < ls.length := Nat.sub_one_lt (mt List.length_eq_zero_iff.1 hne)
  have hlt : ls.length - 1 < 2 ^ d := Nat.lt_of_lt_of_le hi (ct_length_le h)
  obtain ⟨n1, hs, _⟩ := ct_set_path h hi false z
  refine ⟨n1, hs, ?_⟩
  have := ct_setPath_zero_trunc (k := 0) (pbits d (ls.length - 1)) (by rwa [pbits_length]) hz
    (by rw [pnum_pbits hlt, Nat.pow_zero, Nat.mul_one, Nat.sub_add_cancel (Nat.zero_lt_of_lt hi)]
        exact Nat.le_refl _) hs
  rwa [pbits_length, pnum_pbits hlt, Nat.pow_zero, Nat.mul_one, ← List.dropLast_eq_take] at this

/-- writing `zero_node(0)` at the last position (first step of `pop`) -/
theorem ct_set_zero_last {H : Hash} {d : Nat} {ls : List Node} {n : Node}
    (h : ChunkTree H d ls n) (hne : ls ≠ []) :
    ∃ n1, Impl.setAt H false n (ls.length - 1) d (zeroNode H 0) = some n1 ∧
      ChunkTree H d ls.dropLast n1 := by
  rw [setAt_of_lt H false n (Nat.lt_of_lt_of_le
    (Nat.sub_one_lt (mt List.length_eq_zero_iff.1 hne)) (ct_length_le h))]
  exact ct_set_zero_last_path h hne (.summary 0)

/-- summarising any existing subtree that lies entirely beyond the data keeps the chunk tree
    (`k` is the height of the subtree, `pnum p * 2^k` the leftmost bottom position below `p`).
    NOTE the hypothesis `hg`: `summarize_into` navigates to the target first, so the path must exist
    in the tree (it fails on a tree that is already summarised above `p`).  In `pop` the path is a
    prefix of the path just written by `setter`, so it exists (`getPath_setPath_same`). -/
theorem ct_summarize {H : Hash} (p : List Bool) {k : Nat} {ls : List Node} {n : Node}
    (h : ChunkTree H (p.length + k) ls n) (hbeyond : ls.length ≤ pnum p * 2 ^ k)
    {m : Node} (hg : getPath n p = some m) :
    ∃ n', summarizePath H n p = some n' ∧ ChunkTree H (p.length + k) ls n' := by
  have hz : IsZero H k m := by
    have := ct_getPath_slice p h hg
    rw [List.drop_of_length_le hbeyond, List.take_nil] at this
    exact isZero_of_ct_nil this
  have hsome : (setPath H false n p (.leaf (m.root H))).isSome := by
    rw [setPath_isSome_iff, hg]; rfl
  obtain ⟨n', hs⟩ := Option.isSome_iff_exists.1 hsome
  refine ⟨n', by simp [summarizePath, hg, hs], ?_⟩
  have := ct_setPath_zero_trunc p h (isZero_root hz ▸ .summary k)
    (Nat.le_trans hbeyond (Nat.le_add_right _ _)) hs
  rwa [List.take_of_length_le hbeyond] at this

/-- `ct_summarize` for a `pbits` path: `p` is the length-`k` prefix of the path of bottom position
    `i`; the bottom positions below it start at `i / 2^(d-k) * 2^(d-k)`. -/
theorem ct_summarize_pbits {H : Hash} {d : Nat} {ls : List Node} {n : Node} (h : ChunkTree H d ls n)
    (i k : Nat) (hi : i < 2 ^ d) (hk : k ≤ d)
    (hbeyond : ls.length ≤ i / 2 ^ (d - k) * 2 ^ (d - k))
    {m : Node} (hg : getPath n ((pbits d i).take k) = some m) :
    ∃ n', summarizePath H n ((pbits d i).take k) = some n' ∧ ChunkTree H d ls n' := by
  obtain ⟨j, rfl⟩ := Nat.exists_eq_add_of_le hk
  rw [Nat.add_sub_cancel_left] at hbeyond
  rw [take_pbits_add] at hg ⊢
  rw [Nat.add_comm, Nat.pow_add] at hi
  have := ct_summarize (k := j) (pbits k (i / 2 ^ j)) (by rwa [pbits_length])
    (by rwa [pnum_pbits (Nat.div_lt_of_lt_mul hi)]) hg
  rwa [pbits_length] at this

theorem getAt_mixin (c lenN : Node) {i d : Nat} (hi : i < 2 ^ d) :
    Impl.getAt (.pair c lenN) i (d + 1) = Impl.getAt c i d := by
  have hi' : i < 2 ^ (d + 1) :=
    Nat.lt_of_lt_of_le hi (Nat.pow_le_pow_right Nat.two_pos (Nat.le_succ d))
  rw [getAt_of_lt c hi, getAt_of_lt _ hi', pbits_succ_lt hi]
  rfl

theorem getter_two_pow_add (n : Node) {i d : Nat} (h : i < 2 ^ d) :
    getter n (2 ^ d + i) = Impl.getAt n i d := by
  have hg : toGindex i d = some (2 ^ d + i) := by rw [toGindex, if_neg (Nat.not_le.2 h)]
  rw [getter, getAt, if_neg (Nat.ne_of_gt (Nat.add_pos_left (Nat.two_pow_pos d) i)),
    if_neg (Nat.not_le.2 h), gbits_toGindex i d _ hg]

/-- below a length / selector mix-in, the contents subtree is the left child -/
theorem getter_mixin (c r : Node) {i d : Nat} (h : i < 2 ^ d) :
    getter (.pair c r) (2 ^ (d + 1) + i) = Impl.getAt c i d := by
  rw [getter_two_pow_add _ (Nat.lt_of_lt_of_le h (Nat.pow_le_pow_right (by decide) (Nat.le_succ d))),
    getAt_mixin _ _ h]

theorem setAt_mixin (H : Hash) (e : Bool) (c lenN x : Node) {i d : Nat} (hi : i < 2 ^ d) :
    Impl.setAt H e (.pair c lenN) i (d + 1) x
      = (Impl.setAt H e c i d x).map (fun c' => .pair c' lenN) := by
  have hi' : i < 2 ^ (d + 1) :=
    Nat.lt_of_lt_of_le hi (Nat.pow_le_pow_right Nat.two_pos (Nat.le_succ d))
  rw [setAt_of_lt H e c hi, setAt_of_lt H e _ hi', pbits_succ_lt hi]
  rfl

theorem climbRev_snoc_false (q : List Bool) :
    ∃ q' j, q = List.replicate j false ++ q' ∧ climbRev (q ++ [false]) = q' ++ [false] := by
  induction q with
  | nil => exact ⟨[], 0, rfl, rfl⟩
  | cons b t ih =>
    cases b with
    | true => exact ⟨true :: t, 0, rfl, rfl⟩
    | false =>
      obtain ⟨q', j, hq, hc⟩ := ih
      refine ⟨q', j + 1, congrArg (false :: ·) hq, hc ▸ ?_⟩
      cases t <;> rfl

/-- `climb` on a path into the contents subtree (first bit `false`) removes trailing `false` bits
    and never the first bit -/
theorem climb_cons_false (p : List Bool) :
    ∃ p' j, p = p' ++ List.replicate j false ∧ climb (false :: p) = false :: p' := by
  obtain ⟨q', j, hq, hc⟩ := climbRev_snoc_false p.reverse
  refine ⟨q'.reverse, j, ?_, ?_⟩
  · have := congrArg List.reverse hq
    simpa using this
  · simp [climb, hc]

/-- The tree part of `List.pop` / `Bitlist.pop` on the mix-in node `pair contents len`:
    (a) zero the last position by `setter` (no expansion), (b) optionally summarise at
    `climb (path of that position)`.  Both results have the contents a chunk tree of `dropLast`
    and the right child untouched.  `climb` only strips trailing `false` bits, so the summarised
    subtree always starts at the zeroed position, whatever its parity. -/
theorem ct_pop {H : Hash} {d : Nat} {ls : List Node} {c : Node} (h : ChunkTree H d ls c)
    (hne : ls ≠ []) (lenN : Node) {z : Node} (hz : IsZero H 0 z) :
    ∃ c1, Impl.setAt H false (.pair c lenN) (ls.length - 1) (d + 1) z = some (.pair c1 lenN) ∧
      ChunkTree H d ls.dropLast c1 ∧
      ∃ c2, summarizePath H (.pair c1 lenN) (climb (pbits (d + 1) (ls.length - 1)))
          = some (.pair c2 lenN) ∧ ChunkTree H d ls.dropLast c2 := by
  have hlt : ls.length - 1 < 2 ^ d :=
    Nat.lt_of_lt_of_le (Nat.sub_one_lt (mt List.length_eq_zero_iff.1 hne)) (ct_length_le h)
  obtain ⟨c1, hs, hct⟩ := ct_set_zero_last_path h hne hz
  refine ⟨c1, ?_, hct, ?_⟩
  · rw [setAt_mixin H false c lenN z hlt, setAt_of_lt H false c hlt, hs]
    rfl
  · rw [pbits_succ_lt hlt]
    obtain ⟨p', j, hp, hcl⟩ := climb_cons_false (pbits d (ls.length - 1))
    rw [hcl]
    have hg := getPath_setPath_same H false c _ z c1 hs
    rw [hp, getPath_append] at hg
    cases hg' : getPath c1 p' with
    | none => simp [hg'] at hg
    | some m =>
      have hlen' : p'.length + j = d := by
        have := congrArg List.length hp
        simpa [pbits_length] using this.symm
      have hnum : pnum p' * 2 ^ j = ls.length - 1 := by
        rw [← pnum_append_replicate_false, ← hp, pnum_pbits hlt]
      obtain ⟨c2, hsum, hct2⟩ := ct_summarize p' (k := j) (by rwa [hlen'])
        (by rw [hnum, List.length_dropLast]; exact Nat.le_refl _) hg'
      rw [hlen'] at hct2
      refine ⟨c2, ?_, hct2⟩
      unfold summarizePath at hsum ⊢
      rw [hg'] at hsum
      simp only [getPath_pair_cons, Bool.false_eq_true, if_false, hg', setPath_pair_cons, hsum,
        Option.map_some]

/-- the shared tail of `List.pop` / `Bitlist.pop` after zeroing the last position: with or without
    summarisation the result is `pair contents' (lenNode newLen)` with `contents'` a chunk tree of
    `dropLast` -/
theorem ct_popFinish {H : Hash} {d : Nat} {ls : List Node} {c : Node} (h : ChunkTree H d ls c)
    (hne : ls ≠ []) (lenN : Node) {z : Node} (hz : IsZero H 0 z) :
    ∃ c1, Impl.setAt H false (.pair c lenN) (ls.length - 1) (d + 1) z = some (.pair c1 lenN) ∧
      ChunkTree H d ls.dropLast c1 ∧
      ∀ (canSummarize : Bool) (newLen : Nat), ∃ c2,
        Impl.popFinish H (.pair c1 lenN) (pbits (d + 1) (ls.length - 1)) canSummarize newLen
          = some (.pair c2 (lenNode newLen)) ∧ ChunkTree H d ls.dropLast c2 := by
  obtain ⟨c1, hs, hct, c2, hsum, hct2⟩ := ct_pop h hne lenN hz
  refine ⟨c1, hs, hct, ?_⟩
  intro can newLen
  cases can with
  | false => exact ⟨c1, by unfold popFinish rebindRight; simp, hct⟩
  | true => exact ⟨c2, by unfold popFinish rebindRight; simp [hsum], hct2⟩

end Rmk.ChunkTreeLemmas
