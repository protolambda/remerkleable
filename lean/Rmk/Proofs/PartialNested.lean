/-
Mutations THROUGH A CHILD VIEW on partial trees (harness operation `sub i op`).

`subApply H t n i op`: take the child view at key `i` of a view of type `t` over backing `n`
(`Impl.childOf`), apply the mutator `op` to the child (`Impl.apply`), and write the child's new
backing back into the parent (`Impl.setChildNode`).

With `Summ H p n` (`p` is `n` with some subtrees replaced by bare summaries of their roots) we show
that each of the three steps, run on the partial tree, either fails or gives the partial version of
the result of the same step on the complete tree; hence so does `subApply`, and the roots after the
nested write are equal.
-/
import Rmk.Impl.Store
import Rmk.Proofs.DiffHistory
import Rmk.Proofs.PartialViews
import Rmk.Proofs.TreeLaws
namespace Rmk.PartialNested
open Rmk Rmk.Impl Rmk.Spec Rmk.PartialViews

/-- the harness operation `sub i op` -/
def subApply (H : Hash) (t : Ty) (n : Node) (i : Nat) (op : Impl.Op) : Option Node :=
  (Impl.childOf H t n i).bind fun (c : Ty × Node) =>
    (Impl.apply H c.1 c.2 op).bind fun cn' => Impl.setChildNode H t n i cn'

def ChildRel (H : Hash) (x y : Ty × Node) : Prop := x.1 = y.1 ∧ Summ H x.2 y.2

theorem orel_getAt_tag {H : Hash} {a b : Node} (h : Summ H a b) (i depth : Nat) (ct : Ty) :
    ORel (ChildRel H) ((getAt a i depth).map fun c => (ct, c))
      ((getAt b i depth).map fun c => (ct, c)) :=
  orel_map (summ_getAt h i depth) (fun _ _ hs => ⟨rfl, hs⟩)

theorem orel_childOf (H : Hash) (t : Ty) (p n : Node) (i : Nat) (h : Summ H p n) :
    ORel (ChildRel H) (childOf H t p i) (childOf H t n i) := by
  cases t <;> first | exact orel_none _ _ | dsimp only [childOf]
  case vector et len => exact orel_iteN (orel_getAt_tag h _ _ _)
  case list et lim =>
    exact (summ_listLength h).elim (fun _ => orel_none _ _)
      (fun len => orel_iteN (orel_getAt_tag h _ _ _))
  case container fs =>
    cases fs[i]? with
    | none => exact orel_none _ _
    | some ft => exact orel_getAt_tag h _ _ _
  case union hasNone opts =>
    refine h.pair_cases (fun _ _ => orel_none _ _) (fun l r l' r' hl hr => ?_)
    dsimp only [getLeft, getRight]
    rw [summ_readLen hr]
    refine orel_iteN ?_
    cases Spec.optType hasNone opts (readLen H r') with
    | none => exact orel_none _ _
    | some ot => exact orel_some _ _ _ ⟨rfl, hl⟩

theorem childOf_summ {H : Hash} {t : Ty} {p n : Node} {i : Nat} {ct : Ty} {cp : Node}
    (h : Summ H p n) (hc : Impl.childOf H t p i = some (ct, cp)) :
    ∃ cn, Impl.childOf H t n i = some (ct, cn) ∧ Summ H cp cn := by
  obtain ⟨⟨ct', cn⟩, hcn, hty, hs⟩ := orel_childOf H t p n i h _ hc
  simp only at hty
  subst hty
  exact ⟨cn, hcn, hs⟩

theorem orel_setChildNode (H : Hash) (t : Ty) (p n : Node) (i : Nat) (cp cn : Node)
    (h : Summ H p n) (hc : Summ H cp cn) :
    ORel (Summ H) (setChildNode H t p i cp) (setChildNode H t n i cn) := by
  have hset (d : Nat) : ORel (Summ H) (setAt H false p i d cp) (setAt H false n i d cn) :=
    summ_setAt (e := false) (nomatch ·) h hc i d
  cases t <;> first | exact orel_none _ _ | dsimp only [setChildNode]
  case vector et len => exact orel_iteN (hset _)
  case list et lim =>
    exact (summ_listLength h).elim (fun _ => orel_none _ _) (fun len => orel_iteN (hset _))
  case container fs => exact orel_iteN (hset _)
  case union hasNone opts => exact summ_rebindLeft_rel h hc

/-- writing a partial child into a partial parent gives the partial version of writing the
    complete child into the complete parent -/
theorem setChildNode_summ {H : Hash} {t : Ty} {p n : Node} {i : Nat} {cp cn p' : Node}
    (h : Summ H p n) (hc : Summ H cp cn) (hs : Impl.setChildNode H t p i cp = some p') :
    ∃ n', Impl.setChildNode H t n i cn = some n' ∧ Summ H p' n' :=
  orel_setChildNode H t p n i cp cn h hc p' hs

theorem orel_subApply_gen (H : Hash) (t : Ty) (p n : Node) (i : Nat) (op : Impl.Op)
    (h : Summ H p n)
    (hap : ∀ (ct : Ty) (a b : Node), Summ H a b →
      ORel (Summ H) (Impl.apply H ct a op) (Impl.apply H ct b op)) :
    ORel (Summ H) (subApply H t p i op) (subApply H t n i op) := by
  unfold subApply
  refine orel_bind (orel_childOf H t p n i h) ?_
  rintro ⟨ct, cp⟩ ⟨ct', cn⟩ ⟨hty, hs⟩
  simp only at hty hs
  subst hty
  exact orel_bind (hap ct cp cn hs) (fun u v huv => orel_setChildNode H t p n i u v h huv)

/-- every nested mutation except `append`, no hypothesis on the hash -/
theorem subApply_summ {H : Hash} {t : Ty} {p n : Node} {i : Nat} {op : Impl.Op} {p' : Node}
    (hop : ∀ v, op ≠ .append v) (h : Summ H p n) (hs : subApply H t p i op = some p') :
    ∃ n', subApply H t n i op = some n' ∧ Summ H p' n' :=
  orel_subApply_gen H t p n i op h
    (fun ct a b hab => orel_apply_gen H ct a b op hab (fun ⟨v, hv⟩ => absurd hv (hop v))) p' hs

/-- every nested mutation (`append` included) under `ZeroInj H` -/
theorem subApply_summ_all {H : Hash} (hZ : ZeroInj H) {t : Ty} {p n : Node} {i : Nat}
    {op : Impl.Op} {p' : Node} (h : Summ H p n) (hs : subApply H t p i op = some p') :
    ∃ n', subApply H t n i op = some n' ∧ Summ H p' n' :=
  orel_subApply_gen H t p n i op h
    (fun ct a b hab => orel_apply_gen H ct a b op hab (fun _ => hZ)) p' hs

theorem subApply_summ_of_injective2 {H : Hash} (hH : Injective2 H) {t : Ty} {p n : Node} {i : Nat}
    {op : Impl.Op} {p' : Node} (h : Summ H p n) (hs : subApply H t p i op = some p') :
    ∃ n', subApply H t n i op = some n' ∧ Summ H p' n' :=
  subApply_summ_all (zeroInj_of_injective2 H hH) h hs

theorem subApply_summ_root {H : Hash} {t : Ty} {p n : Node} {i : Nat} {op : Impl.Op} {p' : Node}
    (hop : ∀ v, op ≠ .append v) (h : Summ H p n) (hs : subApply H t p i op = some p') :
    ∃ n', subApply H t n i op = some n' ∧ p'.root H = n'.root H :=
  orel_summ_root (fun _ => subApply_summ hop h) p' hs

theorem subApply_summ_all_root {H : Hash} (hZ : ZeroInj H) {t : Ty} {p n : Node} {i : Nat}
    {op : Impl.Op} {p' : Node} (h : Summ H p n) (hs : subApply H t p i op = some p') :
    ∃ n', subApply H t n i op = some n' ∧ p'.root H = n'.root H :=
  orel_summ_root (fun _ => subApply_summ_all hZ h) p' hs

def H0 : Hash := fun a b => a ++ b

/-- `Container{a: Vector[uint256, 2], b: uint256}` -/
def exT : Ty := .container [.vector (.uint 32) 2, .uint 32]

def exFull : Node :=
  .pair (.pair (.leaf (chunkOfLE 32 1)) (.leaf (chunkOfLE 32 2))) (.leaf (chunkOfLE 32 3))

/-- the partial tree: field `b` is summarised, field `a` is present -/
def exPart : Node :=
  .pair (.pair (.leaf (chunkOfLE 32 1)) (.leaf (chunkOfLE 32 2)))
    (.leaf ((Node.leaf (chunkOfLE 32 3)).root H0))

/-- the partial tree in which the field `a` that is written through is itself partial -/
def exPart2 : Node :=
  .pair (.pair (.leaf (chunkOfLE 32 1)) (.leaf ((Node.leaf (chunkOfLE 32 2)).root H0)))
    (.leaf (chunkOfLE 32 3))

theorem exPart_summ : Summ H0 exPart exFull := .pair _ _ _ _ (.refl _) (.leaf _)

theorem exPart2_summ : Summ H0 exPart2 exFull :=
  .pair _ _ _ _ (.pair _ _ _ _ (.refl _) (.leaf _)) (.refl _)

/-- the nested write `c.a[0] = 7` succeeds on the partial tree … -/
example : (subApply H0 exT exPart 0 (.set 0 (.num 7))).isSome = true := by decide

example : (subApply H0 exT exPart2 0 (.set 0 (.num 7))).isSome = true := by decide

/-- … and the theorem applies: the complete tree gives the same root -/
example : ∃ p' n', subApply H0 exT exPart 0 (.set 0 (.num 7)) = some p' ∧
    subApply H0 exT exFull 0 (.set 0 (.num 7)) = some n' ∧ p'.root H0 = n'.root H0 := by
  cases hs : subApply H0 exT exPart 0 (.set 0 (.num 7)) with
  | none => exact absurd hs (by decide)
  | some p' =>
    obtain ⟨n', hn', hr⟩ := subApply_summ_root (by intro v hv; cases hv) exPart_summ hs
    exact ⟨p', n', rfl, hn', hr⟩

end Rmk.PartialNested

