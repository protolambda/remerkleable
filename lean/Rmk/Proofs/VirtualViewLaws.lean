/-
View-level laws of lazily loaded (virtual) trees (property C20): every read of a view over a mixed tree
`m` whose source serves the materialised tree `n` (`Mat H src m n`) gives exactly the result (value or
failure) of the same read over `n`.  The reads over `MNode` are in Rmk/Impl/VirtualView.lean,
line-by-line mirrors of those in Rmk/Impl/View.lean.  No hypothesis on the type `t`; generic in the pair hash `H`.
-/
import Rmk.Impl.VirtualView
import Rmk.Proofs.VirtualLaws
namespace Rmk.VirtualViewLaws
open Rmk Rmk.Impl Rmk.Virtual Rmk.VirtualLaws

/-- `allSome` over pointwise related optional nodes, followed by the concatenation of the roots -/
theorem allSome_roots_eq {H : Hash} {src : Src} {ι} (l : List ι) (f : ι → Option MNode)
    (g : ι → Option Node) (h : ∀ i, OptRel (Mat H src) (f i) (g i)) :
    (allSome (l.map f)).map (fun cs => cs.flatMap fun c => c.root H) =
    (allSome (l.map g)).map (fun cs => cs.flatMap fun c => c.root H) := by
  induction l with
  | nil => rfl
  | cons i l ih =>
    simp only [List.map_cons]
    rcases optRel_cases (h i) with ⟨h1, h2⟩ | ⟨a, b, h1, h2, hab⟩
    · rw [h1, h2]; rfl
    · -- both sides put the root of the head, the same on both sides, in front of the tails' roots
      have := congrArg (Option.map (a.root H ++ ·)) ih
      rw [Option.map_map, Option.map_map] at this
      rw [h1, h2, allSome, allSome, Option.map_map, Option.map_map]
      refine this.trans ?_
      rw [mat_root hab]
      rfl

section
variable {H : Hash} {src : Src} {m : MNode} {n : Node}

/-- `getter(to_gindex(i, depth))`: fails together, related results -/
theorem getAtM_rel (h : Mat H src m n) (i depth : Nat) :
    OptRel (Mat H src) (getAtM src m i depth) (getAt n i depth) :=
  optRel_iteN (getPathM_rel h _)

theorem childM_left (h : Mat H src m n) : OptRel (Mat H src) (childM src false m) (getLeft n) := by
  simpa using childM_mat h false

theorem childM_right (h : Mat H src m n) : OptRel (Mat H src) (childM src true m) (getRight n) := by
  simpa using childM_mat h true

theorem readLenM_mat (h : Mat H src m n) : readLenM H m = readLen H n := by
  unfold readLenM readLen; rw [mat_root h]

theorem listLengthM_mat (h : Mat H src m n) : listLengthM H src m = listLength H n := by
  unfold listLengthM listLength
  exact optRel_map_eq (childM_right h) fun _ _ hab => readLenM_mat hab

theorem readBasicAtM_mat (h : Mat H src m n) (t : Ty) (j : Nat) :
    readBasicAtM H t m j = readBasicAt H t n j := by
  unfold readBasicAtM readBasicAt; rw [mat_root h]; rfl

theorem readChunksM_mat (h : Mat H src m n) (depth count : Nat) :
    readChunksM H src m depth count = readChunks H n depth count := by
  unfold readChunksM readChunks
  exact allSome_roots_eq _ _ _ fun i => getAtM_rel h i depth

/-- reads of the same position agree once their continuations agree on related nodes -/
theorem getAtM_bind_eq (h : Mat H src m n) {γ} {f : MNode → Option γ} {g : Node → Option γ}
    (hfg : ∀ a b, Mat H src a b → f a = g b) (i depth : Nat) :
    (getAtM src m i depth).bind f = (getAt n i depth).bind g :=
  optRel_bind_eq (getAtM_rel h i depth) hfg

theorem getAtM_map_eq (h : Mat H src m n) {γ} {f : MNode → γ} {g : Node → γ}
    (hfg : ∀ a b, Mat H src a b → f a = g b) (i depth : Nat) :
    (getAtM src m i depth).map f = (getAt n i depth).map g :=
  optRel_map_eq (getAtM_rel h i depth) hfg

theorem allSome_range_congr {γ} {f g : Nat → Option γ} (hfg : ∀ i, f i = g i) (k : Nat) :
    allSome ((List.range k).map f) = allSome ((List.range k).map g) := by
  rw [funext hfg]

/-- `get_left()` and `get_right()` fail together: both children are there and related, or neither is -/
theorem children_rel (h : Mat H src m n) :
    (childM src false m = none ∧ getLeft n = none ∧ childM src true m = none ∧ getRight n = none) ∨
    ∃ l l' r r', childM src false m = some l ∧ getLeft n = some l' ∧ childM src true m = some r ∧
      getRight n = some r' ∧ Mat H src l l' ∧ Mat H src r r' := by
  rcases optRel_cases (childM_left h) with ⟨h1, h2⟩ | ⟨l, l', h1, h2, hl⟩
  · cases n with
    | leaf c => exact .inl ⟨h1, h2, (childM_right h).none_iff.mpr rfl, rfl⟩
    | pair _ _ => cases h2
  · cases n with
    | leaf c => cases h2
    | pair _ r' =>
      obtain ⟨r, h3, hr⟩ := (childM_right h).exists_left rfl
      exact .inr ⟨l, l', r, r', h1, h2, h3, rfl, hl, hr⟩

/-- the bit reads of bitvector / bitlist views -/
theorem bitsM_mat (h : Mat H src m n) (depth len : Nat) :
    (allSome ((List.range len).map fun i =>
      (getAtM src m (i / 256) depth).map fun c => bitOfChunk (c.root H) i)) =
    (allSome ((List.range len).map fun i =>
      (getAt n (i / 256) depth).map fun c => bitOfChunk (c.root H) i)) :=
  allSome_range_congr (fun i => getAtM_map_eq h (fun _ _ hab => by rw [mat_root hab]) _ _) _

/-- the packed element reads of vector / list views of basic elements -/
theorem packedM_mat (h : Mat H src m n) (et : Ty) (per depth len : Nat) :
    (allSome ((List.range len).map fun i =>
      (getAtM src m (i / per) depth).bind fun c => readBasicAtM H et c (i % per))) =
    (allSome ((List.range len).map fun i =>
      (getAt n (i / per) depth).bind fun c => readBasicAt H et c (i % per))) :=
  allSome_range_congr (fun _ => getAtM_bind_eq h (fun _ _ hab => readBasicAtM_mat hab et _) _ _) _

/-- element-wise reads of a vector / list / container view, once the element reads agree -/
theorem elemsM_mat (h : Mat H src m n) {γ} {f : MNode → Option γ} {g : Node → Option γ}
    (hfg : ∀ a b, Mat H src a b → f a = g b) (depth len : Nat) :
    allSome ((List.range len).map fun i => (getAtM src m i depth).bind f) =
    allSome ((List.range len).map fun i => (getAt n i depth).bind g) :=
  allSome_range_congr (fun i => getAtM_bind_eq h hfg i depth) len

end

mutual
theorem readValM_mat (H : Hash) (src : Src) (t : Ty) (m : MNode) (n : Node) (h : Mat H src m n) :
    readValM H src t m = readVal H t n := by
  cases t with
  | uint nb => exact readBasicAtM_mat h _ 0
  | bool => exact readBasicAtM_mat h _ 0
  | bitvector len => dsimp only [readValM, readVal]; rw [bitsM_mat h]
  | bitlist lim =>
    dsimp only [readValM, readVal]
    simp only [listLengthM_mat h, bitsM_mat h]
    rfl
  | bytevector len =>
    dsimp only [readValM, readVal]
    simp only [mat_root h, readChunksM_mat h]
  | bytelist lim =>
    dsimp only [readValM, readVal]
    rcases children_rel h with ⟨h1, h2, h3, h4⟩ | ⟨c, c', l, l', h1, h2, h3, h4, hc, hl⟩
    · simp only [h1, h2, h3, h4]
    · simp only [h1, h2, h3, h4, readLenM_mat hl, mat_root hc, readChunksM_mat hc]
  | vector et len =>
    dsimp only [readValM, readVal]
    simp only [packedM_mat h, elemsM_mat h (readValM_mat H src et)]
  | list et lim =>
    dsimp only [readValM, readVal]
    simp only [listLengthM_mat h, packedM_mat h, elemsM_mat h (readValM_mat H src et)]
    rfl
  | container fs =>
    dsimp only [readValM, readVal]
    rw [readFieldsM_mat H src fs m n h]
  | union hasNone opts =>
    dsimp only [readValM, readVal]
    rcases children_rel h with ⟨h1, h2, h3, h4⟩ | ⟨c, c', s, s', h1, h2, h3, h4, hc, hs⟩
    · simp only [h1, h2, h3, h4]
    · simp only [h1, h2, h3, h4, readLenM_mat hs, mat_root hc, readOptM_mat H src opts _ c c' hc]
theorem readFieldsM_mat (H : Hash) (src : Src) (ts : List Ty) (m : MNode) (n : Node)
    (h : Mat H src m n) (depth i : Nat) :
    readFieldsM H src ts m depth i = readFields H ts n depth i := by
  cases ts with
  | nil => rfl
  | cons t ts =>
    dsimp only [readFieldsM, readFields]
    rw [readFieldsM_mat H src ts m n h depth (i + 1),
      getAtM_bind_eq h (fun a b hab => readValM_mat H src t a b hab) i depth]
    rfl
theorem readOptM_mat (H : Hash) (src : Src) (ts : List Ty) (k : Nat) (m : MNode) (n : Node)
    (h : Mat H src m n) :
    readOptM H src ts k m = readOpt H ts k n := by
  cases ts with
  | nil => rfl
  | cons t ts =>
    cases k with
    | zero => exact readValM_mat H src t m n h
    | succ k => exact readOptM_mat H src ts k m n h
end

section
variable {H : Hash} {src : Src} {m : MNode} {n : Node}

theorem readElemM_mat (h : Mat H src m n) (t : Ty) (i : Nat) :
    readElemM H src t m i = readElem H t n i := by
  have hv (et : Ty) (j d : Nat) :
      (getAtM src m j d).bind (readValM H src et) = (getAt n j d).bind (readVal H et) :=
    getAtM_bind_eq h (readValM_mat H src et) j d
  have hb (et : Ty) (j d k : Nat) : ((getAtM src m j d).bind fun c => readBasicAtM H et c k) =
      ((getAt n j d).bind fun c => readBasicAt H et c k) :=
    getAtM_bind_eq h (fun _ _ hab => readBasicAtM_mat hab et k) j d
  have hbit (j d : Nat) :
      ((getAtM src m j d).map fun c => Val.num (if bitOfChunk (c.root H) i then 1 else 0)) =
      ((getAt n j d).map fun c => Val.num (if bitOfChunk (c.root H) i then 1 else 0)) :=
    getAtM_map_eq h (fun _ _ hab => by rw [mat_root hab]) j d
  cases t with
  | vector | list | container | bitvector | bitlist =>
    dsimp only [readElemM, readElem]
    simp only [listLengthM_mat h, hv, hb, hbit] <;> rfl
  | _ => rfl

theorem viewLenM_mat (h : Mat H src m n) (t : Ty) :
    viewLenM H src t m = viewLen H t n := by
  cases t with
  | list | bitlist => exact listLengthM_mat h
  | bytelist lim => simp only [viewLenM, viewLen, readValM_mat H src _ m n h]; rfl
  | _ => rfl

theorem sliceReadM_mat (h : Mat H src m n) (t : Ty) (a b : Nat) :
    sliceReadM H src t m a b = sliceRead H t n a b := by
  simp only [sliceReadM, sliceRead, readElemM_mat h]

end

/-- a view over the wholly virtual node `VirtualNode(n.root, src)`, whose source serves the tree `n`, reads
    exactly like the view over `n`: complete reads, element reads, `len` (value or failure) -/
theorem virtual_view_reads {H : Hash} {src : Src} {n : Node} (t : Ty) (hs : Serves H src n) :
    readValM H src t (.virt (n.root H)) = readVal H t n ∧
    (∀ i, readElemM H src t (.virt (n.root H)) i = readElem H t n i) ∧
    viewLenM H src t (.virt (n.root H)) = viewLen H t n :=
  ⟨readValM_mat H src t _ n (mat_virt hs), fun i => readElemM_mat (mat_virt hs) t i,
    viewLenM_mat (mat_virt hs) t⟩

/-- the same for slices -/
theorem virtual_view_slices {H : Hash} {src : Src} {n : Node} (t : Ty) (hs : Serves H src n) (a b : Nat) :
    sliceReadM H src t (.virt (n.root H)) a b = sliceRead H t n a b :=
  sliceReadM_mat (mat_virt hs) t a b

/-- and for a wholly materialised backing (an ordinary tree seen as a mixed tree, whatever the source) -/
theorem ofNode_view_reads (H : Hash) (src : Src) (n : Node) (t : Ty) :
    readValM H src t (MNode.ofNode n) = readVal H t n :=
  readValM_mat H src t _ n (mat_ofNode H src n)

/-- a toy hash without collisions on the trees below -/
private def H1 : Hash := fun a b => 255 :: (a ++ b)
private def tL : Ty := .list (.uint 1) 64
/-- `Container{a: uint8, b: List[uint8, 64]}` -/
private def tC : Ty := .container [.uint 1, tL]
/-- the list holds 7, 8, 9 (contents of depth 1, length mix-in 3) -/
private def nL : Node := .pair (.pair (.leaf [7, 8, 9]) (.leaf [])) (.leaf [3])
private def nC : Node := .pair (.leaf [5]) nL
private def srcC : Src := srcOfDict (dictOf H1 nC)

example : Serves H1 srcC nC ∧ Serves H1 srcC nL := by decide +kernel
example : Mat H1 srcC (.virt (nC.root H1)) nC := by decide +kernel
-- a complete read through the wholly virtual backing (`Val` has no `DecidableEq`: by evaluation)
example : readValM H1 srcC tC (.virt (nC.root H1)) =
    some (.seq [.num 5, .seq [.num 7, .num 8, .num 9]]) := by rfl
example : readVal H1 tC nC = some (.seq [.num 5, .seq [.num 7, .num 8, .num 9]]) := by rfl
-- a half materialised backing
example : readValM H1 srcC tC (.pair (.leaf [5]) (.virt (nL.root H1))) =
    some (.seq [.num 5, .seq [.num 7, .num 8, .num 9]]) := by rfl
-- element reads, out-of-range read, `len`, slice
example : readElemM H1 srcC tL (.virt (nL.root H1)) 2 = some (.num 9) ∧
    readElemM H1 srcC tL (.virt (nL.root H1)) 3 = none ∧
    viewLenM H1 srcC tL (.virt (nL.root H1)) = some 3 ∧
    sliceReadM H1 srcC tL (.virt (nL.root H1)) 1 3 = some [.num 8, .num 9] :=
  ⟨by rfl, by rfl, by rfl, by rfl⟩
-- failures coincide: a virtual leaf read as a list (no right child) fails like the materialised leaf
example : readValM H1 srcC tL (.virt [5]) = none ∧ readVal H1 tL (.leaf [5]) = none := ⟨by rfl, by rfl⟩

end Rmk.VirtualViewLaws
