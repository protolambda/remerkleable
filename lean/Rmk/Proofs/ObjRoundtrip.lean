/-
Object export / import round trip (property C16), over the model `Rmk/Spec/Obj.lean`.

For every well-formed type `t` and well-typed value `v`, `rt` gives `fromObj t (toObj t v) = some v`
together with `Shape t (toObj t v)` (stated as `roundtrip` and `C16.shape`); `roundtrip_json` goes
through `json.dumps`/`loads`, where tuples become lists: in fact `fromObj t (jsonNorm o) = fromObj t o`
for all `o`.  Also `unhex_hexOf`, the strict bitfield decoders inverting the SSZ encoding, `toJson_jsonNorm`
(tuples print as arrays) and `fromObj_container_empty` (missing keys default to zero).
-/
import Rmk.Spec.Obj
import Rmk.Proofs.BytesLemmas
import Rmk.Proofs.TypeLemmas
namespace Rmk.ObjRoundtrip
open Rmk Rmk.Spec Rmk.Obj


theorem hexVal_hexDigit : ∀ d : Fin 16, hexVal (hexDigit d.val) = some d.val := by decide

theorem hexVal_hexDigit' (d : Nat) (h : d < 16) : hexVal (hexDigit d) = some d :=
  hexVal_hexDigit ⟨d, h⟩

/-- the characters of `bytes.hex()` -/
def hexChars (bs : List UInt8) : List Char :=
  bs.flatMap fun b => [hexDigit (b.toNat / 16), hexDigit (b.toNat % 16)]

theorem hexOf_toList (bs : List UInt8) : (hexOf bs).toList = hexChars bs := by
  simp [hexOf, hexChars]

theorem hexChars_cons (b : UInt8) (bs : List UInt8) :
    hexChars (b :: bs) = hexDigit (b.toNat / 16) :: hexDigit (b.toNat % 16) :: hexChars bs := by
  simp [hexChars]

theorem unhexAux_hexChars (bs : List UInt8) : unhexAux (hexChars bs) = some bs := by
  induction bs with
  | nil => rfl
  | cons b bs ih =>
    have h1 : b.toNat / 16 < 16 := Nat.div_lt_of_lt_mul (UInt8.toNat_lt b)
    have h2 : b.toNat % 16 < 16 := Nat.mod_lt _ (by decide)
    have h3 : UInt8.ofNat (b.toNat / 16 * 16 + b.toNat % 16) = b := by
      rw [Nat.div_add_mod', UInt8.ofNat_toNat]
    simp only [hexChars_cons, unhexAux, hexVal_hexDigit' _ h1, hexVal_hexDigit' _ h2, ih, h3,
      Option.bind_eq_bind, Option.bind_some, Option.pure_def]

theorem unhex_hexOf (bs : List UInt8) : unhex (hexOf bs) = some bs := by
  rw [unhex, hexOf_toList, unhexAux_hexChars]

theorem hexStr_toList (bs : List UInt8) : (hexStr bs).toList = '0' :: 'x' :: hexChars bs := by
  simp [hexStr, String.toList_append, hexOf_toList]

theorem strip0x_hexStr (bs : List UInt8) : strip0x (hexStr bs).toList = some (hexChars bs) := by
  rw [hexStr_toList]; rfl

theorem decodeBitvector_bitsToBytes (n : Nat) (bs : List Bool) (h : bs.length = n) :
    decodeBitvector n (bitsToBytes bs) = some (.bits bs) := by
  subst h
  simp only [decodeBitvector, bitsToBytes_length, beq_self_eq_true, Bool.true_and,
    bytesToBits_bitsToBytes, bytesToBits_bitsToBytes_drop]
  simp

theorem dropWhile_replicate_false (k : Nat) (r : List Bool) :
    (List.replicate k false ++ true :: r).dropWhile (· == false) = true :: r := by
  induction k with
  | zero => simp
  | succ k _ => simp [List.replicate_succ, List.dropWhile]

theorem stripTrailingFalse_append_true (bs : List Bool) (k : Nat) :
    stripTrailingFalse ((bs ++ [true]) ++ List.replicate k false) = bs ++ [true] := by
  simp only [stripTrailingFalse, List.reverse_append, List.reverse_replicate, List.reverse_cons,
    List.reverse_nil, List.nil_append, List.singleton_append]
  rw [dropWhile_replicate_false]
  simp

/-- the byte holding the delimiter bit is not zero -/
theorem bitsToBytes_delim_getLastD_ne (bs : List Bool) :
    (bitsToBytes (bs ++ [true])).getLastD 0 ≠ 0 := by
  obtain ⟨pre, last, rfl, hd, hr⟩ := exists_full_bytes_append bs
  have h8 : (last ++ [true]).length ≤ 8 := by rw [List.length_append]; exact hr
  rw [List.append_assoc, bitsToBytes_append_last pre _ hd (by simp) h8, List.getLastD_concat]
  intro h0
  have h := congrArg UInt8.toNat h0
  rw [toNat_ofNat_bitsToNat h8, bitsToNat_append] at h
  simp at h

theorem decodeBitlist_bitsToBytes (lim : Nat) (bs : List Bool) (h : bs.length ≤ lim) :
    decodeBitlist lim (bitsToBytes (bs ++ [true])) = some (.bits bs) := by
  have h0 := bitsToBytes_delim_getLastD_ne bs
  have h1 : ((bitsToBytes (bs ++ [true])).getLastD 0 == 0) = false := by simpa using h0
  simp only [decodeBitlist, h1, Bool.false_eq_true, if_false, bytesToBits_bitsToBytes_eq,
    stripTrailingFalse_append_true, List.dropLast_concat, h, if_true]


theorem optMapM_map_congr {α β γ} (f : β → Option γ) (g : α → β) (h : α → Option γ) (xs : List α)
    (e : ∀ x ∈ xs, f (g x) = h x) : optMapM f (xs.map g) = optMapM h xs := by
  induction xs with
  | nil => rfl
  | cons x xs ih =>
    have h1 := e x (by simp)
    have h2 := ih (fun y hy => e y (by simp [hy]))
    simp only [List.map_cons, optMapM, h1, h2]

theorem optMapM_some {α} (xs : List α) : optMapM some xs = some xs := by
  induction xs with
  | nil => rfl
  | cons x xs ih => simp only [optMapM, ih]

theorem optMapM_map {α β} (f : β → Option α) (g : α → β) (vs : List α)
    (h : ∀ v ∈ vs, f (g v) = some v) : optMapM f (vs.map g) = some vs := by
  rw [optMapM_map_congr f g some vs h, optMapM_some]

theorem toString_inj {i j : Nat} (h : toString i = toString j) : i = j := by
  simp only [Nat.toString_eq_repr] at h
  have h' := congrArg String.toList h
  simp only [Nat.toList_repr] at h'
  rw [← Nat.ofDigitChars_ten_toDigits (n := i), ← Nat.ofDigitChars_ten_toDigits (n := j), h']

theorem fieldName_inj {i j : Nat} (h : fieldName i = fieldName j) : i = j := by
  apply toString_inj
  have h' := congrArg String.toList h
  simp only [fieldName, String.toList_append, List.append_cancel_left_eq] at h'
  exact String.toList_inj.mp h'

theorem fieldName_beq (i j : Nat) : (fieldName i == fieldName j) = decide (i = j) := by
  by_cases h : i = j
  · subst h; simp
  · have : fieldName i ≠ fieldName j := fun e => h (fieldName_inj e)
    simp [h, this]


def KeysBelow (i : Nat) (pre : List (String × Obj)) : Prop :=
  ∀ p ∈ pre, ∃ j, j < i ∧ p.1 = fieldName j

theorem lookup_after_pre (i : Nat) (pre rest : List (String × Obj)) (o : Obj)
    (h : KeysBelow i pre) :
    (pre ++ (fieldName i, o) :: rest).lookup (fieldName i) = some o := by
  induction pre with
  | nil => simp
  | cons p pre ih =>
    obtain ⟨j, hj, hp⟩ := h p (by simp)
    obtain ⟨k, x⟩ := p
    simp only at hp
    subst hp
    have hne : (fieldName i == fieldName j) = false := by
      rw [fieldName_beq]; simp; omega
    simp only [List.cons_append, List.lookup_cons, hne]
    exact ih (fun q hq => h q (by simp [hq]))

theorem keysBelow_snoc (i : Nat) (pre : List (String × Obj)) (o : Obj) (h : KeysBelow i pre) :
    KeysBelow (i + 1) (pre ++ [(fieldName i, o)]) := by
  intro p hp
  simp only [List.mem_append, List.mem_singleton] at hp
  rcases hp with hp | rfl
  · obtain ⟨j, hj, e⟩ := h p hp
    exact ⟨j, by omega, e⟩
  · exact ⟨i, by omega, rfl⟩

theorem mem_toObjFields (ts : List Ty) (i : Nat) (vs : List Val) (p : String × Obj)
    (hp : p ∈ toObjFields ts i vs) : ∃ j, i ≤ j ∧ j < i + ts.length ∧ p.1 = fieldName j := by
  induction ts generalizing i vs with
  | nil => unfold toObjFields at hp; simp at hp
  | cons t ts ih =>
    cases vs with
    | nil => unfold toObjFields at hp; simp at hp
    | cons v vs =>
      unfold toObjFields at hp; simp only [List.mem_cons] at hp
      rcases hp with rfl | hp
      · exact ⟨i, Nat.le_refl i, Nat.lt_add_of_pos_right (Nat.succ_pos _), rfl⟩
      · obtain ⟨j, h1, h2, h3⟩ := ih (i + 1) vs hp
        exact ⟨j, Nat.le_of_succ_le h1, by rw [List.length_cons]; omega, h3⟩

theorem keys_known (fs : List Ty) (vs : List Val) :
    (toObjFields fs 0 vs).all (fun kv => (fieldNames fs.length).contains kv.1) = true := by
  rw [List.all_eq_true]
  intro p hp
  obtain ⟨j, _, h2, h3⟩ := mem_toObjFields fs 0 vs p hp
  simp only [fieldNames, List.contains_eq_mem, List.mem_map, List.mem_range, decide_eq_true_eq]
  exact ⟨j, by omega, h3.symm⟩

mutual
/-- what `to_obj` of a value of type `t` looks like: ints for uint8..uint64, `"0x" + hex` strings of
    the right byte length for uint128/uint256, bitfields (SSZ encoding, bitlists with the delimiter
    byte) and byte arrays, a bool for boolean, a `list` for List, a `tuple` for Vector, a dict with
    exactly the field names in order for Container, a selector/value dict for Union. -/
def Shape : Ty → Obj → Prop
  | .uint nb, o =>
    if nb ≤ 8 then ∃ n, o = .num n else ∃ bs : List UInt8, o = .str (hexStr bs) ∧ bs.length = nb
  | .bool, o => ∃ b, o = .bool b
  | .bitvector n, o => ∃ bs : List UInt8, o = .str (hexStr bs) ∧ bs.length = (n + 7) / 8
  | .bitlist lim, o =>
    ∃ bs : List UInt8, o = .str (hexStr bs) ∧ 1 ≤ bs.length ∧ bs.length ≤ lim / 8 + 1
  | .bytevector n, o => ∃ bs : List UInt8, o = .str (hexStr bs) ∧ bs.length = n
  | .bytelist lim, o => ∃ bs : List UInt8, o = .str (hexStr bs) ∧ bs.length ≤ lim
  | .vector t n, o => ∃ xs, o = .tup xs ∧ xs.length = n ∧ ∀ x ∈ xs, Shape t x
  | .list t lim, o => ∃ xs, o = .arr xs ∧ xs.length ≤ lim ∧ ∀ x ∈ xs, Shape t x
  | .container fs, o => ∃ kvs, o = .dict kvs ∧ ShapeFields fs 0 kvs
  | .union hasNone opts, o =>
    ∃ sel x, o = .dict [("selector", .num sel), ("value", x)] ∧ sel < optCount hasNone opts ∧
      (if hasNone && sel == 0 then x = .null else ShapeOpt opts (optIndex hasNone sel) x)
/-- exactly the keys `f i, f (i+1), …` in this order, each value of the field's shape -/
def ShapeFields : List Ty → Nat → List (String × Obj) → Prop
  | [], _, kvs => kvs = []
  | t :: ts, i, kvs =>
    ∃ x rest, kvs = (fieldName i, x) :: rest ∧ Shape t x ∧ ShapeFields ts (i + 1) rest
def ShapeOpt : List Ty → Nat → Obj → Prop
  | [], _, _ => False
  | t :: _, 0, o => Shape t o
  | _ :: ts, k+1, o => ShapeOpt ts k o
end


/-- `from_obj(to_obj(v)) = v`, and `to_obj(v)` has the shape of its type -/
def RT (t : Ty) : Prop :=
  ∀ v, t.wf = true → WT t v = true → fromObj t (toObj t v) = some v ∧ Shape t (toObj t v)

theorem rt_uint (nb : Nat) : RT (.uint nb) := by
  intro v hwf hwt
  obtain ⟨n, rfl, hn⟩ := WT_uint_inv hwt
  unfold toObj
  constructor
  · split
    · unfold fromObj
      simp only [strip0x_hexStr, unhexAux_hexChars, Option.bind_some, fromLE_toLE' nb n hn,
        checkUint, hn, if_true]
    · unfold fromObj
      simp only [checkUint, hn, if_true]
  · simp [Ty.wf] at hwf
    unfold Shape
    rcases hwf with ((((rfl | rfl) | rfl) | rfl) | rfl) | rfl
    · exact ⟨n, rfl⟩
    · exact ⟨n, rfl⟩
    · exact ⟨n, rfl⟩
    · exact ⟨n, rfl⟩
    · exact ⟨toLE 16 n, rfl, toLE_length 16 n⟩
    · exact ⟨toLE 32 n, rfl, toLE_length 32 n⟩

theorem rt_bool : RT .bool := by
  intro v _ hwt
  obtain ⟨n, rfl, hn⟩ := WT_bool_inv hwt
  unfold toObj Shape fromObj
  refine ⟨?_, n != 0, rfl⟩
  have : n = 0 ∨ n = 1 := by omega
  rcases this with rfl | rfl <;> rfl

theorem rt_bitvector (n : Nat) : RT (.bitvector n) := by
  intro v _ hwt
  obtain ⟨bs, rfl, hlen⟩ := WT_bitvector_inv hwt
  unfold toObj serialize Shape fromObj
  exact ⟨by simp only [strip0x_hexStr, unhexAux_hexChars, Option.bind_some,
      decodeBitvector_bitsToBytes n bs hlen],
    bitsToBytes bs, rfl, by rw [bitsToBytes_length, hlen]⟩

theorem rt_bitlist (lim : Nat) : RT (.bitlist lim) := by
  intro v _ hwt
  obtain ⟨bs, rfl, hle⟩ := WT_bitlist_inv hwt
  unfold toObj serialize Shape fromObj
  refine ⟨by simp only [strip0x_hexStr, unhexAux_hexChars, Option.bind_some,
      decodeBitlist_bitsToBytes lim bs hle],
    bitsToBytes (bs ++ [true]), rfl, ?_⟩
  rw [bitsToBytes_length, List.length_append, List.length_singleton, Nat.add_assoc,
    Nat.add_div_right _ (by decide)]
  exact ⟨Nat.le_add_left 1 _, Nat.succ_le_succ (Nat.div_le_div_right hle)⟩

theorem rt_bytevector (n : Nat) : RT (.bytevector n) := by
  intro v _ hwt
  obtain ⟨bs, rfl, rfl⟩ := WT_bytevector_inv hwt
  unfold toObj Shape fromObj
  exact ⟨by simp only [bytesFromStr, strip0x_hexStr, unhexAux_hexChars, Option.bind_some,
      mkBytevector, beq_self_eq_true, if_true], bs, rfl, rfl⟩

theorem rt_bytelist (lim : Nat) : RT (.bytelist lim) := by
  intro v _ hwt
  obtain ⟨bs, rfl, hle⟩ := WT_bytelist_inv hwt
  unfold toObj Shape fromObj
  exact ⟨by simp only [bytesFromStr, strip0x_hexStr, unhexAux_hexChars, Option.bind_some,
      mkBytelist, hle, if_true], bs, rfl, hle⟩

theorem rt_elems {t : Ty} (ih : RT t) (hwf : t.wf = true) (vs : List Val)
    (hall : ∀ w ∈ vs, WT t w = true) :
    optMapM (fromObj t) (vs.map (toObj t)) = some vs ∧ ∀ x ∈ vs.map (toObj t), Shape t x := by
  refine ⟨optMapM_map _ _ vs fun w hw => (ih w hwf (hall w hw)).1, fun x hx => ?_⟩
  obtain ⟨w, hw, rfl⟩ := List.mem_map.mp hx
  exact (ih w hwf (hall w hw)).2

theorem rt_vector (t : Ty) (n : Nat) (ih : RT t) : RT (.vector t n) := by
  intro v hwf hwt
  obtain ⟨vs, rfl, rfl, hall⟩ := WT_vector_inv hwt
  obtain ⟨h, s⟩ := rt_elems ih (Ty.wf_vector hwf).2 vs hall
  unfold toObj Shape fromObj
  exact ⟨by simp only [List.length_map, beq_self_eq_true, if_true, h, Option.map_some],
    _, rfl, List.length_map .., s⟩

theorem rt_list (t : Ty) (lim : Nat) (ih : RT t) : RT (.list t lim) := by
  intro v hwf hwt
  obtain ⟨vs, rfl, hle, hall⟩ := WT_list_inv hwt
  obtain ⟨h, s⟩ := rt_elems ih (Ty.wf_list hwf) vs hall
  unfold toObj Shape fromObj
  exact ⟨by simp only [List.length_map, hle, if_true, h, Option.map_some],
    _, rfl, by rw [List.length_map]; exact hle, s⟩

/-- The fields from `i` on, after a dict `pre` of earlier fields: `from_obj` finds each by name. -/
theorem rt_fields (ts : List Ty) (ih : ∀ t ∈ ts, RT t) (i : Nat) (vs : List Val)
    (pre : List (String × Obj)) (hwf : Ty.wfList ts = true) (hwt : WTs ts vs = true)
    (hpre : KeysBelow i pre) :
    fromObjFields ts i (pre ++ toObjFields ts i vs) = some vs ∧
      ShapeFields ts i (toObjFields ts i vs) := by
  induction ts generalizing i vs pre with
  | nil =>
    obtain rfl := WTs_nil_inv hwt
    unfold toObjFields fromObjFields ShapeFields
    exact ⟨rfl, rfl⟩
  | cons t ts ihts =>
    obtain ⟨v, vs, rfl, hv, hvs⟩ := WTs_cons_inv hwt
    obtain ⟨ht, hts⟩ := Ty.wfList_cons hwf
    obtain ⟨h1, s1⟩ := ih t List.mem_cons_self v ht hv
    obtain ⟨h2, s2⟩ := ihts (fun u hu => ih u (List.mem_cons_of_mem _ hu)) (i + 1) vs
      (pre ++ [(fieldName i, toObj t v)]) hts hvs (keysBelow_snoc i pre _ hpre)
    simp only [List.append_assoc, List.singleton_append] at h2
    unfold toObjFields fromObjFields ShapeFields
    simp only [lookup_after_pre i pre _ _ hpre, h1, h2]
    exact ⟨trivial, _, _, rfl, s1, s2⟩

theorem rt_opt (ts : List Ty) (ih : ∀ t ∈ ts, RT t) (k : Nat) (v : Val)
    (hwf : Ty.wfList ts = true) (hwt : WTopt ts k v = true) :
    fromObjOpt ts k (toObjOpt ts k v) = some v ∧ ShapeOpt ts k (toObjOpt ts k v) := by
  induction ts generalizing k with
  | nil => cases hwt
  | cons t ts ihts =>
    obtain ⟨ht, hts⟩ := Ty.wfList_cons hwf
    cases k with
    | zero =>
      unfold toObjOpt fromObjOpt ShapeOpt
      exact ih t List.mem_cons_self v ht hwt
    | succ k =>
      unfold toObjOpt fromObjOpt ShapeOpt
      exact ihts (fun u hu => ih u (List.mem_cons_of_mem _ hu)) k hts hwt

theorem rt_container (fs : List Ty) (ih : ∀ t ∈ fs, RT t) : RT (.container fs) := by
  intro v hwf hwt
  obtain ⟨vs, rfl, hvs⟩ := WT_container_inv hwt
  obtain ⟨h, s⟩ := rt_fields fs ih 0 vs [] (Ty.wf_container hwf).2 hvs (fun _ hp => nomatch hp)
  rw [List.nil_append] at h
  unfold toObj Shape fromObj
  exact ⟨by simp only [keys_known, if_true, h, Option.map_some], _, rfl, s⟩

theorem lookup_selector (a b : Obj) : [("selector", a), ("value", b)].lookup "selector" = some a := by
  simp
theorem lookup_value (a b : Obj) : [("selector", a), ("value", b)].lookup "value" = some b := by
  simp [List.lookup_cons]

theorem rt_union (hn : Bool) (opts : List Ty) (ih : ∀ t ∈ opts, RT t) : RT (.union hn opts) := by
  intro v hwf hwt
  obtain ⟨sel, w, rfl, hw⟩ := WT_union_inv hwt
  have hsel := WT_union_sel_lt hwt
  unfold toObj Shape fromObj
  simp only [lookup_selector, lookup_value, ge_iff_le]
  by_cases hc : (hn && sel == 0) = true
  · rw [if_pos hc] at hw
    subst hw
    simp only [Nat.not_le.2 hsel, hc, if_true, if_false]
    exact ⟨trivial, sel, _, rfl, hsel, by rw [if_pos hc]⟩
  · rw [if_neg hc] at hw
    obtain ⟨h, s⟩ := rt_opt opts ih _ w (Ty.wf_union hwf).2 hw
    simp only [Nat.not_le.2 hsel, hc, Bool.false_eq_true, if_false, h, Option.map_some]
    exact ⟨trivial, sel, _, rfl, hsel, by rwa [if_neg hc]⟩

mutual
theorem rt : (t : Ty) → RT t
  | .uint nb => rt_uint nb
  | .bool => rt_bool
  | .bitvector n => rt_bitvector n
  | .bitlist lim => rt_bitlist lim
  | .bytevector n => rt_bytevector n
  | .bytelist lim => rt_bytelist lim
  | .vector t n => rt_vector t n (rt t)
  | .list t lim => rt_list t lim (rt t)
  | .container fs => rt_container fs (rt_all fs)
  | .union hn opts => rt_union hn opts (rt_all opts)
theorem rt_all : (ts : List Ty) → ∀ t ∈ ts, RT t
  | [], _, h => nomatch h
  | t :: ts, t', h =>
    match List.mem_cons.1 h with
    | .inl e => e ▸ rt t
    | .inr h' => rt_all ts t' h'
end

theorem roundtrip (t : Ty) (v : Val) (hwf : t.wf = true) (hwt : WT t v = true) :
    fromObj t (toObj t v) = some v := (rt t v hwf hwt).1

theorem rtFields (ts : List Ty) (i : Nat) (vs : List Val) (pre : List (String × Obj))
    (hwf : Ty.wfList ts = true) (hwt : WTs ts vs = true) (hpre : KeysBelow i pre) :
    fromObjFields ts i (pre ++ toObjFields ts i vs) = some vs :=
  (rt_fields ts (fun t _ => rt t) i vs pre hwf hwt hpre).1

theorem rtOpt (ts : List Ty) (k : Nat) (v : Val) (hwf : Ty.wfList ts = true)
    (hwt : WTopt ts k v = true) : fromObjOpt ts k (toObjOpt ts k v) = some v :=
  (rt_opt ts (fun t _ => rt t) k v hwf hwt).1

theorem shapeFields (ts : List Ty) (i : Nat) (vs : List Val)
    (hwf : Ty.wfList ts = true) (hwt : WTs ts vs = true) :
    ShapeFields ts i (toObjFields ts i vs) :=
  (rt_fields ts (fun t _ => rt t) i vs [] hwf hwt (fun _ hp => nomatch hp)).2

theorem shapeOpt (ts : List Ty) (k : Nat) (v : Val) (hwf : Ty.wfList ts = true)
    (hwt : WTopt ts k v = true) : ShapeOpt ts k (toObjOpt ts k v) :=
  (rt_opt ts (fun t _ => rt t) k v hwf hwt).2


theorem jsonNormList_eq (xs : List Obj) : jsonNormList xs = xs.map jsonNorm := by
  induction xs with
  | nil => rfl
  | cons x xs ih => unfold jsonNormList; simp [ih]

theorem lookup_jsonNormKvs (k : String) (kvs : List (String × Obj)) :
    (jsonNormKvs kvs).lookup k = (kvs.lookup k).map jsonNorm := by
  induction kvs with
  | nil => rfl
  | cons p kvs ih =>
    obtain ⟨a, x⟩ := p
    simp only [jsonNormKvs, List.lookup_cons]
    cases k == a <;> simp [ih]

theorem all_keys_jsonNormKvs (P : String → Bool) (kvs : List (String × Obj)) :
    (jsonNormKvs kvs).all (fun kv => P kv.1) = kvs.all (fun kv => P kv.1) := by
  induction kvs with
  | nil => rfl
  | cons p kvs ih =>
    obtain ⟨a, x⟩ := p
    simp [jsonNormKvs, ih]

theorem truthy_jsonNorm (o : Obj) : truthy (jsonNorm o) = truthy o := by
  cases o with
  | arr xs => cases xs <;> simp [jsonNorm, truthy, jsonNormList]
  | tup xs => cases xs <;> simp [jsonNorm, truthy, jsonNormList]
  | dict kvs =>
    cases kvs with
    | nil => simp [jsonNorm, truthy, jsonNormKvs]
    | cons p kvs => obtain ⟨a, x⟩ := p; simp [jsonNorm, truthy, jsonNormKvs]
  | _ => simp [jsonNorm]

theorem byteOfObj_jsonNorm (o : Obj) : byteOfObj (jsonNorm o) = byteOfObj o := by
  cases o <;> simp [jsonNorm, byteOfObj]

theorem optMapM_jsonNormList {β} (f : Obj → Option β) (xs : List Obj)
    (h : ∀ x, f (jsonNorm x) = f x) : optMapM f (jsonNormList xs) = optMapM f xs := by
  rw [jsonNormList_eq, optMapM_map_congr f jsonNorm f xs fun x _ => h x]

theorem map_truthy_jsonNormList (xs : List Obj) :
    (jsonNormList xs).map truthy = xs.map truthy := by
  rw [jsonNormList_eq, List.map_map]
  apply List.map_congr_left
  intro x _; exact truthy_jsonNorm x

theorem length_jsonNormList (xs : List Obj) : (jsonNormList xs).length = xs.length := by
  rw [jsonNormList_eq, List.length_map]

theorem fromObj_tup (t : Ty) (xs : List Obj) : fromObj t (.tup xs) = fromObj t (.arr xs) := by
  cases t <;> rfl

mutual
theorem fromObj_jsonNorm (t : Ty) (o : Obj) : fromObj t (jsonNorm o) = fromObj t o := by
  have harr : ∀ xs, fromObj t (.arr (jsonNormList xs)) = fromObj t (.arr xs) := by
    intro xs
    unfold fromObj
    cases t with
    | bitvector n => simp only [map_truthy_jsonNormList]
    | bitlist n => simp only [map_truthy_jsonNormList]
    | bytevector n => simp only [optMapM_jsonNormList byteOfObj _ byteOfObj_jsonNorm]
    | bytelist n => simp only [optMapM_jsonNormList byteOfObj _ byteOfObj_jsonNorm]
    | vector t n =>
      simp only [length_jsonNormList, optMapM_jsonNormList (fromObj t) _ (fromObj_jsonNorm t)]
    | list t n =>
      simp only [length_jsonNormList, optMapM_jsonNormList (fromObj t) _ (fromObj_jsonNorm t)]
    | _ => rfl
  cases o with
  | num _ => rfl
  | str _ => rfl
  | bool _ => rfl
  | null => rfl
  | tup xs =>
    -- a tuple is normalised to an array, and `fromObj` reads both alike
    rw [fromObj_tup, ← harr xs]
    rfl
  | arr xs => exact harr xs
  | dict kvs =>
    cases t with
    | container fs =>
      unfold jsonNorm fromObj
      simp only [all_keys_jsonNormKvs (fun k => (fieldNames fs.length).contains k),
        fromObjFields_jsonNorm fs 0 kvs]
    | union hasNone opts =>
      unfold jsonNorm fromObj
      simp only [lookup_jsonNormKvs]
      cases kvs.lookup "selector" with
      | none => rfl
      | some s =>
        cases kvs.lookup "value" with
        | none => cases s <;> rfl
        | some w =>
          cases s with
          | num sel =>
            simp only [Option.map_some, jsonNorm]
            split
            · rfl
            · split
              · cases w <;> rfl
              · rw [fromObjOpt_jsonNorm]
          | _ => rfl
    | _ => rfl

theorem fromObjFields_jsonNorm (ts : List Ty) (i : Nat) (kvs : List (String × Obj)) :
    fromObjFields ts i (jsonNormKvs kvs) = fromObjFields ts i kvs := by
  cases ts with
  | nil => rfl
  | cons t ts =>
    unfold fromObjFields; simp only [lookup_jsonNormKvs, fromObjFields_jsonNorm ts (i + 1) kvs]
    cases kvs.lookup (fieldName i) with
    | none => rfl
    | some o => simp only [Option.map_some, fromObj_jsonNorm t o]

theorem fromObjOpt_jsonNorm (ts : List Ty) (k : Nat) (o : Obj) :
    fromObjOpt ts k (jsonNorm o) = fromObjOpt ts k o := by
  cases ts with
  | nil => rfl
  | cons t ts =>
    cases k with
    | zero => unfold fromObjOpt; simp only [fromObj_jsonNorm t o]
    | succ k => unfold fromObjOpt; simp only [fromObjOpt_jsonNorm ts k o]
end

theorem roundtrip_json (t : Ty) (v : Val) (hwf : t.wf = true) (hwt : WT t v = true) :
    fromObj t (jsonNorm (toObj t v)) = some v := by
  rw [fromObj_jsonNorm]; exact roundtrip t v hwf hwt


theorem isEmpty_jsonNormList (xs : List Obj) : (jsonNormList xs).isEmpty = xs.isEmpty := by
  cases xs <;> simp [jsonNormList]

theorem isEmpty_jsonNormKvs (kvs : List (String × Obj)) :
    (jsonNormKvs kvs).isEmpty = kvs.isEmpty := by
  cases kvs with
  | nil => simp [jsonNormKvs]
  | cons p kvs => obtain ⟨a, x⟩ := p; simp [jsonNormKvs]

mutual
theorem toJson_jsonNorm (o : Obj) : toJson (jsonNorm o) = toJson o := by
  cases o with
  | arr xs => unfold jsonNorm toJson; simp only [toJsonList_jsonNorm xs]
  | tup xs => unfold jsonNorm toJson; simp only [toJsonList_jsonNorm xs]
  | dict kvs => unfold jsonNorm toJson; simp only [toJsonKvs_jsonNorm kvs]
  | _ => unfold jsonNorm; rfl

theorem toJsonList_jsonNorm (xs : List Obj) : toJsonList (jsonNormList xs) = toJsonList xs := by
  cases xs with
  | nil => unfold jsonNormList; rfl
  | cons x xs =>
    unfold jsonNormList toJsonList; simp only [toJson_jsonNorm x, toJsonList_jsonNorm xs,
      isEmpty_jsonNormList]

theorem toJsonKvs_jsonNorm (kvs : List (String × Obj)) :
    toJsonKvs (jsonNormKvs kvs) = toJsonKvs kvs := by
  cases kvs with
  | nil => unfold jsonNormKvs; rfl
  | cons p kvs =>
    obtain ⟨a, x⟩ := p
    unfold jsonNormKvs toJsonKvs; simp only [toJson_jsonNorm x, toJsonKvs_jsonNorm kvs,
      isEmpty_jsonNormKvs]
end

theorem fromObjFields_nil (ts : List Ty) (i : Nat) : fromObjFields ts i [] = some (zeroVals ts) := by
  induction ts generalizing i with
  | nil => simp [fromObjFields, zeroVals]
  | cons t ts ih => simp [fromObjFields, zeroVals, ih]

theorem fromObj_container_empty (fs : List Ty) :
    fromObj (.container fs) (.dict []) = some (zeroVal (.container fs)) := by
  unfold fromObj
  simp [fromObjFields_nil, zeroVal]

end Rmk.ObjRoundtrip
