/-
C09: the work of decoding is bounded linearly in the scope, for every input whatsoever.

`Impl.deserWork t s scope` counts the `deserialize` calls made by `T.deserialize(stream, scope)` (nested ones
included). With constants `W t`, `A t` that depend on the type only,

    deserWork t s scope ≤ W t * (scope + 1) + A t

for every stream `s` and every `scope`; well-formedness of `t` is not needed (`deserWork_le'`). The bound of each
decoder loop is proved for an arbitrary element decoder; `bd_all` ties the knot along the structure of the type.
-/
import Rmk.Impl.DeserWork
namespace Rmk.DeserWorkBound
open Rmk Rmk.Impl Rmk.Spec

/-- rounded-up quotient (0 if `b = 0`) -/
def cdiv (a b : Nat) : Nat := (a + b - 1) / b

/-- slope of a sequence whose elements have slope `We` and constant `Ae`.
    Fixed-size elements of length `l`: `scope / l` elements, each costs `≤ We * (l + 1) + Ae`.
    Variable-size elements: at most `first / 4` of them and their scopes add up to `≤ scope - first`. -/
def seqW (fixed : Bool) (l We Ae : Nat) : Nat :=
  if fixed then We + cdiv (We + Ae) l else max We (cdiv (We + Ae) 4)

mutual
/-- slope of the bound -/
def W : Ty → Nat
  | .uint _ => 0
  | .bool => 0
  | .bitvector _ => 0
  | .bitlist _ => 0
  | .bytevector _ => 0
  | .bytelist _ => 0
  | .vector t _ => seqW (isFixed t) (fixedLen t) (W t) (A t)
  | .list t _ => seqW (isFixed t) (fixedLen t) (W t) (A t)
  | .container fs => Wv fs
  | .union _ opts => Wm opts
/-- additive constant of the bound -/
def A : Ty → Nat
  | .uint _ => 1
  | .bool => 1
  | .bitvector _ => 1
  | .bitlist _ => 1
  | .bytevector _ => 1
  | .bytelist _ => 1
  | .vector _ _ => 1
  | .list _ _ => 1
  | .container fs => 1 + Cf fs + Av fs
  | .union _ opts => 1 + Am opts
/-- largest slope among union options (only one of them is decoded); `Am` likewise -/
def Wm : List Ty → Nat
  | [] => 0
  | t :: ts => max (W t) (Wm ts)
def Am : List Ty → Nat
  | [] => 0
  | t :: ts => max (A t) (Am ts)
/-- sum of the slopes of the variable-size fields of a container (each is decoded with a scope of at
    most the container's, so the bounds add up); `Av` likewise -/
def Wv : List Ty → Nat
  | [] => 0
  | t :: ts => (if isFixed t then 0 else W t) + Wv ts
def Av : List Ty → Nat
  | [] => 0
  | t :: ts => (if isFixed t then 0 else A t) + Av ts
/-- total cost of the fixed-size fields of a container (each is decoded with scope `fixedLen`,
    whatever the scope of the container is) -/
def Cf : List Ty → Nat
  | [] => 0
  | t :: ts => (if isFixed t then W t * (fixedLen t + 1) + A t else 0) + Cf ts
end

/-- The work functions are chains of guards `if c then 0 else …` (`1` for `deserWork`). With these lemmas a bound is
    carried through the guards as a term that mirrors the chain; the function itself unfolds by computation. -/
theorem ite_le {c : Prop} [Decidable c] {a b n : Nat} (h1 : c → a ≤ n) (h2 : ¬c → b ≤ n) :
    (if c then a else b) ≤ n := by
  by_cases hc : c
  · rw [if_pos hc]; exact h1 hc
  · rw [if_neg hc]; exact h2 hc

theorem le_ite {c : Prop} [Decidable c] {a b n : Nat} (h1 : c → n ≤ a) (h2 : ¬c → n ≤ b) :
    n ≤ if c then a else b := by
  by_cases hc : c
  · rw [if_pos hc]; exact h1 hc
  · rw [if_neg hc]; exact h2 hc

theorem ite_zero_le {c : Prop} [Decidable c] {x b : Nat} (h : ¬c → x ≤ b) : (if c then 0 else x) ≤ b :=
  ite_le (fun _ => Nat.zero_le _) h

/-- One step of a decoder loop: the calls of this decode and, if it succeeds, those of the rest. -/
theorem step_le (d : Option (Val × Impl.Stream)) (f : Impl.Stream → Nat) {a A B : Nat} (ha : a ≤ A)
    (hf : ∀ s1, f s1 ≤ B) : a + (match d with | none => 0 | some (_, s1) => f s1) ≤ A + B := by
  cases d with
  | none => exact Nat.le_trans ha (Nat.le_add_right ..)
  | some p => exact Nat.add_le_add ha (hf p.2)

theorem workFixedN_le (dec : Dec) (wk : Wk) (l c : Nat) (h : ∀ s, wk s l ≤ c) :
    ∀ (k : Nat) (s : Impl.Stream), workFixedN dec wk l k s ≤ c * k
  | 0, _ => Nat.le_refl 0
  | k + 1, s => by
    rw [Nat.mul_succ, Nat.add_comm (c * k)]
    exact step_le _ _ (h s) (workFixedN_le dec wk l c h k)

theorem workVarN_le (dec : Dec) (wk : Wk) (emin emax scope We Ae : Nat)
    (h : ∀ s k, wk s k ≤ We * (k + 1) + Ae) :
    ∀ (rest : List Nat) (o : Nat) (s : Impl.Stream),
      workVarN dec wk emin emax scope (o :: rest) s ≤ We * (scope - o) + (We + Ae) * rest.length
  | [], _, _ => Nat.zero_le _
  | stop :: rest, start, s => by
    refine ite_zero_le fun h1 => ite_zero_le fun h2 => ite_zero_le fun _ => ?_
    refine Nat.le_trans (step_le _ _ (h s _) (workVarN_le dec wk emin emax scope We Ae h rest stop)) ?_
    rw [← Nat.sub_add_sub_cancel (Nat.le_of_not_gt h2) (Nat.le_of_not_gt h1), List.length_cons,
      Nat.mul_succ We, Nat.add_assoc (We * _), Nat.add_add_add_comm, Nat.mul_add We,
      Nat.mul_succ (We + Ae), Nat.add_comm (We * (scope - stop)), Nat.add_comm ((We + Ae) * _)]
    exact Nat.le_refl _

theorem readOffsets_length : ∀ (k : Nat) (s : Impl.Stream), (readOffsets k s).1.length = k := by
  intro k
  induction k with
  | zero => intro s; simp [readOffsets]
  | succ k ih => intro s; simp [readOffsets, ih]

theorem le_cdiv_mul (a b : Nat) (hb : 0 < b) : a ≤ cdiv a b * b := by
  have h : a + b - 1 + 1 ≤ b * ((a + b - 1) / b) + b := Nat.lt_mul_div_succ (a + b - 1) hb
  rw [Nat.sub_add_cancel (Nat.le_trans hb (Nat.le_add_left ..)), Nat.mul_comm] at h
  exact Nat.le_of_add_le_add_right h

/-- `c` elements of length `l` fill the scope `l * c`; `D` stands for `cdiv (We + Ae) l`. -/
theorem fixed_arith (We Ae D l c : Nat) (hd : We + Ae ≤ D * l) :
    (We * (l + 1) + Ae) * c ≤ (We + D) * (l * c) := by
  have a1 : (We + Ae) * c ≤ D * (l * c) := Nat.mul_assoc .. ▸ Nat.mul_le_mul_right c hd
  rw [Nat.add_mul We D, Nat.mul_succ, Nat.add_assoc, Nat.add_mul, Nat.mul_assoc]
  exact Nat.add_le_add_left a1 _

/-- `c` elements behind `4 * c ≤ first` bytes of offsets; `D` stands for `cdiv (We + Ae) 4`. -/
theorem var_arith (We Ae D scope first c : Nat) (hd : We + Ae ≤ D * 4) (hc : 4 * c ≤ first)
    (hf : first ≤ scope) : We * (scope - first) + (We + Ae) * c ≤ max We D * scope := by
  obtain ⟨r, rfl⟩ := Nat.exists_eq_add_of_le hf
  rw [Nat.add_sub_cancel_left, Nat.mul_add, Nat.add_comm]
  refine Nat.add_le_add ?_ (Nat.mul_le_mul_right r (Nat.le_max_left ..))
  calc (We + Ae) * c ≤ D * 4 * c := Nat.mul_le_mul_right c hd
    _ = D * (4 * c) := Nat.mul_assoc ..
    _ ≤ D * first := Nat.mul_le_mul_left D hc
    _ ≤ max We D * first := Nat.mul_le_mul_right first (Nat.le_max_right ..)

theorem workSeqWith_le (dec : Dec) (wk : Wk) (fixed : Bool) (l emin emax : Nat) (vc : Nat → Bool)
    (We Ae : Nat) (h : ∀ s k, wk s k ≤ We * (k + 1) + Ae) (s : Impl.Stream) (scope : Nat) :
    workSeqWith dec wk fixed l emin emax vc s scope ≤ seqW fixed l We Ae * scope := by
  cases fixed with
  | true =>
    refine ite_zero_le fun hl => ite_zero_le fun hm => ite_zero_le fun _ => ?_
    obtain ⟨c, rfl⟩ : l ∣ scope :=
      Nat.dvd_of_mod_eq_zero (Decidable.of_not_not fun hne => hm (bne_iff_ne.2 hne))
    rw [Nat.mul_div_cancel_left c (Nat.pos_of_ne_zero hl)]
    exact Nat.le_trans (workFixedN_le dec wk l _ (fun s => h s l) c s)
      (fixed_arith We Ae _ l c (le_cdiv_mul _ l (Nat.pos_of_ne_zero hl)))
  | false =>
    refine ite_zero_le fun _ => ite_zero_le fun (hf : ¬(readOffset s).1 > scope) => ite_zero_le fun _ =>
      ite_zero_le fun _ => ite_zero_le fun (hc : ¬(readOffset s).1 / 4 = 0) => ?_
    refine Nat.le_trans (workVarN_le dec wk emin emax scope We Ae h
      ((readOffsets ((readOffset s).1 / 4 - 1) (readOffset s).2).1 ++ [scope]) (readOffset s).1 _) ?_
    rw [List.length_append, readOffsets_length, List.length_singleton,
      Nat.sub_add_cancel (Nat.pos_of_ne_zero hc)]
    exact var_arith We Ae _ scope _ _ (le_cdiv_mul _ 4 (by decide)) (Nat.mul_div_le ..)
      (Nat.le_of_not_gt hf)

/-- the bound for one type, as the induction hypothesis over component types -/
def Bd (t : Ty) : Prop := ∀ (s : Stream) (k : Nat), deserWork t s k ≤ W t * (k + 1) + A t

theorem bd_seq (et : Ty) (vc : Nat → Bool) (ih : Bd et) (s : Impl.Stream) (scope : Nat) :
    1 + workSeqWith (deser et) (deserWork et) (isFixed et) (fixedLen et) (minLen et) (maxLen et) vc s scope
      ≤ seqW (isFixed et) (fixedLen et) (W et) (A et) * (scope + 1) + 1 := by
  rw [Nat.add_comm 1]
  exact Nat.succ_le_succ (Nat.le_trans (workSeqWith_le _ _ _ _ _ _ vc _ _ ih s scope)
    (Nat.mul_le_mul_left _ (Nat.le_succ scope)))

theorem bd_fixedFields : (fs : List Ty) → (∀ t ∈ fs, Bd t) → allFixed fs = true →
    ∀ s, workFixedFields fs s ≤ Cf fs
  | [], _, _ => fun _ => Nat.zero_le _
  | t :: ts, ih, hf => fun s => by
    have hf := Bool.and_eq_true_iff.1 hf
    rw [Cf, if_pos hf.1]
    exact step_le _ _ (ih t (List.mem_cons_self ..) s _)
      (bd_fixedFields ts (fun t' h' => ih t' (List.mem_cons_of_mem _ h')) hf.2)

theorem bd_scan : (fs : List Ty) → (∀ t ∈ fs, Bd t) → ∀ s, workScan fs s ≤ Cf fs
  | [], _ => fun _ => Nat.zero_le _
  | t :: ts, ih => fun s => by
    have h2 := bd_scan ts (fun t' h' => ih t' (List.mem_cons_of_mem _ h'))
    unfold workScan Cf
    by_cases hfx : isFixed t = true
    · rw [if_pos hfx, if_pos hfx]
      exact step_le _ _ (ih t (List.mem_cons_self ..) s _) h2
    · rw [if_neg hfx, if_neg hfx]
      exact Nat.le_trans (h2 _) (Nat.le_add_left ..)

theorem bd_dyn : (fs : List Ty) → (∀ t ∈ fs, Bd t) → ∀ scope offs s,
    workDyn fs scope offs s ≤ Wv fs * (scope + 1) + Av fs
  | [], _ => fun _ _ _ => Nat.zero_le _
  | t :: ts, ih => fun scope offs s => by
    have h2 := bd_dyn ts (fun t' h' => ih t' (List.mem_cons_of_mem _ h')) scope
    unfold workDyn
    rw [Wv, Av]
    by_cases hfx : isFixed t = true
    · rw [if_pos hfx, if_pos hfx, if_pos hfx, Nat.zero_add, Nat.zero_add]
      exact h2 offs s
    · rw [if_neg hfx, if_neg hfx, if_neg hfx, Nat.add_mul, Nat.add_add_add_comm]
      split
      · rename_i start stop rest
        refine ite_zero_le fun _ => ite_zero_le fun g2 => ite_zero_le fun _ => ?_
        -- the field's scope `stop - start` is at most the container's
        have hk : stop - start + 1 ≤ scope + 1 :=
          Nat.succ_le_succ (Nat.le_trans (Nat.sub_le ..) (Nat.le_of_not_gt g2))
        exact step_le _ _ (Nat.le_trans (ih t (List.mem_cons_self ..) s _)
          (Nat.add_le_add_right (Nat.mul_le_mul_left _ hk) _)) (h2 _)
      · exact Nat.zero_le _

theorem bd_opt : (fs : List Ty) → (∀ t ∈ fs, Bd t) → ∀ k s scope,
    workOpt fs k s scope ≤ Wm fs * (scope + 1) + Am fs
  | [], _, _, _, _ => Nat.zero_le _
  | t :: _, ih, 0, s, scope =>
    Nat.le_trans (ih t (List.mem_cons_self ..) s scope)
      (Nat.add_le_add (Nat.mul_le_mul_right _ (Nat.le_max_left ..)) (Nat.le_max_left ..))
  | _ :: ts, ih, k + 1, s, scope =>
    Nat.le_trans (bd_opt ts (fun t' h' => ih t' (List.mem_cons_of_mem _ h')) k s scope)
      (Nat.add_le_add (Nat.mul_le_mul_right _ (Nat.le_max_right ..)) (Nat.le_max_right ..))

theorem bd_container (fs : List Ty) (ih : ∀ t ∈ fs, Bd t) : Bd (.container fs) := by
  intro s scope
  refine Nat.le_trans (ite_le (fun hf => ?_) fun _ => ?_) (Nat.le_of_eq (Nat.add_left_comm ..))
  · exact Nat.le_trans (ite_le (fun _ => Nat.le_add_right 1 _)
      fun _ => Nat.add_le_add_left (bd_fixedFields fs ih hf s) 1) (Nat.le_add_right ..)
  · refine Nat.add_le_add (Nat.add_le_add_left (bd_scan fs ih s) 1) ?_
    split
    · exact Nat.zero_le _
    · split
      · exact Nat.zero_le _
      · exact ite_zero_le fun _ => bd_dyn fs ih scope _ _

theorem bd_union (hasNone : Bool) (opts : List Ty) (ih : ∀ t ∈ opts, Bd t) :
    Bd (.union hasNone opts) := by
  intro s scope
  have h1 : 1 ≤ 1 + (Wm opts * (scope + 1) + Am opts) := Nat.le_add_right ..
  refine Nat.le_trans (ite_le (fun _ => h1) fun hs => ite_le (fun _ => h1) fun _ =>
    ite_le (fun _ => h1) fun _ => ?_) (Nat.le_of_eq (Nat.add_left_comm ..))
  have h := bd_opt opts ih (optIndex hasNone (fromLE (s.take 1))) (s.drop 1) (scope - 1)
  rw [Nat.sub_add_cancel (Nat.le_of_not_gt hs)] at h
  exact Nat.add_le_add_left (Nat.le_trans h
    (Nat.add_le_add_right (Nat.mul_le_mul_left _ (Nat.le_succ scope)) _)) 1

mutual
theorem bd_all : (t : Ty) → Bd t
  | .uint _ => fun _ _ => Nat.le_add_left 1 _
  | .bool => fun _ _ => Nat.le_add_left 1 _
  | .bitvector _ => fun _ _ => Nat.le_add_left 1 _
  | .bitlist _ => fun _ _ => Nat.le_add_left 1 _
  | .bytevector _ => fun _ _ => Nat.le_add_left 1 _
  | .bytelist _ => fun _ _ => Nat.le_add_left 1 _
  | .vector et _ => fun s k => bd_seq et _ (bd_all et) s k
  | .list et _ => fun s k => bd_seq et _ (bd_all et) s k
  | .container fs => bd_container fs (bd_all_list fs)
  | .union hasNone opts => bd_union hasNone opts (bd_all_list opts)
theorem bd_all_list : (fs : List Ty) → ∀ t ∈ fs, Bd t
  | [] => fun _ h => nomatch h
  | t :: ts => fun t' h =>
    match List.mem_cons.1 h with
    | .inl e => e ▸ bd_all t
    | .inr h' => bd_all_list ts t' h'
end

/-- the bound holds for every type expression, well-formed or not -/
theorem deserWork_le' (t : Ty) (s : Impl.Stream) (scope : Nat) :
    Impl.deserWork t s scope ≤ W t * (scope + 1) + A t := bd_all t s scope

set_option linter.unusedVariables false in
/-- **C09.** The number of `deserialize` calls made by `T.deserialize(stream, scope)` is bounded by a linear
    function of the scope, for every input stream whatsoever (too short, garbage, anything): decoding
    terminates, and in time linear in the scope.  (`hwf` is not needed by the proof: `deserWork_le'`.) -/
theorem deserWork_le (t : Ty) (hwf : t.wf = true) (s : Stream) (scope : Nat) :
    Impl.deserWork t s scope ≤ W t * (scope + 1) + A t := deserWork_le' t s scope

/-- the call itself is counted -/
theorem deserWork_pos (t : Ty) (s : Impl.Stream) (scope : Nat) : 1 ≤ Impl.deserWork t s scope := by
  cases t with
  | vector et n => exact Nat.le_add_right 1 _
  | list et lim => exact Nat.le_add_right 1 _
  | container fs =>
    exact le_ite (fun _ => le_ite (fun _ => Nat.le_refl 1) fun _ => Nat.le_add_right ..)
      fun _ => Nat.le_trans (Nat.le_add_right 1 _) (Nat.le_add_right ..)
  | union hasNone opts =>
    exact le_ite (fun _ => Nat.le_refl 1) fun _ => le_ite (fun _ => Nat.le_refl 1) fun _ =>
      le_ite (fun _ => Nat.le_refl 1) fun _ => Nat.le_add_right ..
  | _ => exact Nat.le_refl 1

theorem deserWork_basic (s : Stream) (scope : Nat) :
    (∀ nb, Impl.deserWork (.uint nb) s scope = 1) ∧
    Impl.deserWork .bool s scope = 1 ∧
    (∀ n, Impl.deserWork (.bitvector n) s scope = 1) ∧
    (∀ lim, Impl.deserWork (.bitlist lim) s scope = 1) ∧
    (∀ n, Impl.deserWork (.bytevector n) s scope = 1) ∧
    (∀ lim, Impl.deserWork (.bytelist lim) s scope = 1) :=
  ⟨fun _ => rfl, rfl, fun _ => rfl, fun _ => rfl, fun _ => rfl, fun _ => rfl⟩

/-- `List[Container{uint8, List[uint8, 4]}, 3]` -/
def exT : Ty := .list (.container [.uint 1, .list (.uint 1) 4]) 3
/-- the same shape with large limits -/
def exT2 : Ty := .list (.container [.uint 1, .list (.uint 1) 100]) 100

/-- valid encoding of `[{1, [2,3]}, {4, []}]` (20 bytes) -/
def exGood : Stream := [8,0,0,0, 15,0,0,0,  1, 5,0,0,0, 2,3,   4, 5,0,0,0]
/-- second offset beyond the scope: rejected before any element is decoded -/
def exGarbage1 : Stream := [8,0,0,0, 255,255,255,255, 1,2,3,4,5,6,7,8,9,10,11,12]
/-- first element decodes, the second one has a bad inner offset -/
def exGarbage2 : Stream := [8,0,0,0, 13,0,0,0,  7, 5,0,0,0,  9, 200,0,0,0, 1, 2]
/-- valid encoding (for `exT2`) of one element `{1, [2,…,12]}`: the most calls 20 bytes can cause -/
def exLong : Stream := [4,0,0,0,  1, 5,0,0,0, 2,3,4,5,6,7,8,9,10,11,12]

-- the constants of the example types: the bound is `1 * (scope + 1) + 1`, i.e. 22 for scope 20
example : (W exT, A exT, W exT * (20 + 1) + A exT) = (1, 1, 22) := by decide +kernel
example : (W exT2, A exT2, W exT2 * (20 + 1) + A exT2) = (1, 1, 22) := by decide +kernel
-- valid input: 1 (list) + 5 (container, uint8, inner list, 2 × uint8) + 3 (container, uint8, inner list)
example : (deser exT exGood 20).isSome = true ∧ deserWork exT exGood 20 = 9 := by decide +kernel
example : deser exT exGarbage1 20 = none ∧ deserWork exT exGarbage1 20 = 1 := by decide +kernel
example : deser exT exGarbage2 20 = none ∧ deserWork exT exGarbage2 20 = 6 := by decide +kernel
example : deserWork exT [] 20 = 1 ∧ deserWork exT [4] 20 = 1 := by decide +kernel
-- 15 calls out of the 22 allowed
example : (deser exT2 exLong 20).isSome = true ∧ deserWork exT2 exLong 20 = 15 := by decide +kernel
-- a list of bytes: `scope + 1` calls, the bound is `scope + 2`
example : deserWork (.list (.uint 1) 100) exLong 20 = 21 ∧
    W (.list (.uint 1) 100) * (20 + 1) + A (.list (.uint 1) 100) = 22 := by decide +kernel

end Rmk.DeserWorkBound
