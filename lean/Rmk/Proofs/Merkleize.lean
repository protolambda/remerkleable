/-
The spec's `merkleize` (Rmk/Spec/Ssz.lean): `getDepth`, one `layer`, the structural equations of
`merkleize` (empty, pivot split, zero padding) and its agreement with the naive bottom-up reduction
of the spec text.  Everything is generic in the pair hash `H`.
-/
import Rmk.Spec.Ssz
import Rmk.Proofs.Gindex
namespace Rmk
open Rmk.Spec

/-- `getDepth n` is the least depth with room for `n` (and ≥ 1) items -/
theorem getDepth_le_iff (n d : Nat) : getDepth n ≤ d ↔ n ≤ 2 ^ d := by
  have := Nat.two_pow_pos d
  unfold getDepth
  split
  · omega
  · rw [bitLength_le_iff]; omega

theorem two_pow_getDepth (n : Nat) : n ≤ 2 ^ getDepth n :=
  (getDepth_le_iff n _).1 (Nat.le_refl _)

theorem getDepth_minimal (n : Nat) : getDepth n = 0 ∨ 2 ^ (getDepth n - 1) < n := by
  by_cases h : getDepth n = 0
  · exact .inl h
  · exact .inr (Nat.lt_of_not_le fun hle =>
      Nat.not_le.2 (Nat.sub_one_lt h) ((getDepth_le_iff n _).2 hle))

@[simp] theorem zeroHash_zero (H : Hash) : zeroHash H 0 = zeroChunk := rfl

theorem zeroHash_succ (H : Hash) (d : Nat) : zeroHash H (d + 1) = H (zeroHash H d) (zeroHash H d) := rfl

@[simp] theorem zeroNode_root (H : Hash) (d : Nat) : (zeroNode H d).root H = zeroHash H d := rfl

theorem half_le {n m : Nat} (h : n ≤ 2 * m) : (n + 1) / 2 ≤ m :=
  Nat.le_of_lt_succ (Nat.div_lt_of_lt_mul (Nat.succ_lt_succ (Nat.lt_succ_of_le h)))

theorem layer_length (H : Hash) (z : Chunk) (cs : List Chunk) :
    (layer H z cs).length = (cs.length + 1) / 2 := by
  fun_induction layer H z cs with
  | case1 a b rest ih =>
    rw [List.length_cons, ih]
    exact (Nat.add_div_right (rest.length + 1) (by decide : 0 < 2)).symm
  | case2 a => simp
  | case3 => rfl

/-- on an even-length list virtual padding is not used -/
theorem layer_eq_layerNaive (H : Hash) (z : Chunk) (cs : List Chunk) (h : cs.length % 2 = 0) :
    layer H z cs = layerNaive H cs := by
  fun_induction layer H z cs with
  | case1 a b rest ih =>
    unfold layerNaive; rw [ih (by rwa [List.length_cons, List.length_cons, Nat.add_assoc, Nat.add_mod_right] at h)]
  | case2 a => simp at h
  | case3 => rfl

theorem layer_replicate (H : Hash) (z : Chunk) (m : Nat) :
    layer H z (List.replicate m z) = List.replicate ((m + 1) / 2) (H z z) := by
  induction m using Nat.strongRecOn with
  | _ m ih =>
    match m with
    | 0 => rfl
    | 1 => rfl
    | m + 2 =>
      have e : (m + 2 + 1) / 2 = (m + 1) / 2 + 1 := Nat.add_div_right (m + 1) (by decide : 0 < 2)
      rw [List.replicate_succ, List.replicate_succ, layer, ih m (Nat.lt_add_of_pos_right Nat.two_pos), e, List.replicate_succ]

/-- appending copies of this layer's zero hash appends copies of the next layer's zero hash -/
theorem layer_append_replicate (H : Hash) (z : Chunk) (cs : List Chunk) (m : Nat) :
    ∃ m', layer H z (cs ++ List.replicate m z) = layer H z cs ++ List.replicate m' (H z z) := by
  fun_induction layer H z cs with
  | case1 a b rest ih =>
    obtain ⟨m', hm⟩ := ih
    exact ⟨m', by simp [layer, hm]⟩
  | case2 a =>
    cases m with
    | zero => exact ⟨0, by simp [layer]⟩
    | succ m =>
      exact ⟨(m + 1) / 2, by simp [List.replicate_succ, layer, layer_replicate]⟩
  | case3 => exact ⟨(m + 1) / 2, by simp [layer_replicate]⟩

theorem layer_take (H : Hash) (z : Chunk) (n : Nat) (cs : List Chunk) :
    layer H z (cs.take (2 * n)) = (layer H z cs).take n := by
  induction n generalizing cs with
  | zero => simp [layer]
  | succ n ih =>
    match cs with
    | [] => simp [layer]
    | [a] => simp [Nat.mul_succ, layer]
    | a :: b :: rest =>
      have e : 2 * (n + 1) = 2 * n + 1 + 1 := rfl
      rw [e, List.take_succ_cons, List.take_succ_cons, layer, layer, List.take_succ_cons, ih]

theorem layer_drop (H : Hash) (z : Chunk) (n : Nat) (cs : List Chunk) :
    layer H z (cs.drop (2 * n)) = (layer H z cs).drop n := by
  induction n generalizing cs with
  | zero => simp
  | succ n ih =>
    match cs with
    | [] => simp [layer]
    | [a] => simp [Nat.mul_succ, layer]
    | a :: b :: rest =>
      have e : 2 * (n + 1) = 2 * n + 1 + 1 := rfl
      rw [e, List.drop_succ_cons, List.drop_succ_cons, layer, List.drop_succ_cons, ih]

theorem merkleizeAux_nil (H : Hash) (k d : Nat) : merkleizeAux H k d [] = zeroHash H (k + d) := by
  induction d generalizing k with
  | zero => rfl
  | succ d ih =>
    unfold merkleizeAux; rw [layer, ih, Nat.add_right_comm]
    rfl

theorem merkleizeAux_split (H : Hash) (k d : Nat) (cs : List Chunk) (h : cs.length ≤ 2 ^ (d + 1)) :
    merkleizeAux H k (d + 1) cs =
      H (merkleizeAux H k d (cs.take (2 ^ d))) (merkleizeAux H k d (cs.drop (2 ^ d))) := by
  induction d generalizing k cs with
  | zero =>
    match cs, h with
    | [], _ => rfl
    | [a], _ => rfl
    | [a, b], _ => rfl
    | _ :: _ :: _ :: _, h => simp at h
  | succ d ih =>
    have hl : (layer H (zeroHash H k) cs).length ≤ 2 ^ (d + 1) := by
      rw [layer_length]
      exact half_le (Nat.pow_succ' ▸ h)
    have e : 2 ^ (d + 1) = 2 * 2 ^ d := Nat.pow_succ'
    rw [merkleizeAux, ih (k + 1) _ hl]
    conv => rhs; rw [merkleizeAux, merkleizeAux, e, layer_take, layer_drop]

theorem merkleizeAux_append_zero (H : Hash) (k d : Nat) (cs : List Chunk) (m : Nat)
    (h : cs.length + m ≤ 2 ^ d) :
    merkleizeAux H k d (cs ++ List.replicate m (zeroHash H k)) = merkleizeAux H k d cs := by
  induction d generalizing k cs m with
  | zero =>
    match cs, h with
    | [], h =>
      cases m with
      | zero => rfl
      | succ m => unfold merkleizeAux; simp [List.replicate_succ]
    | a :: rest, _ => rfl
  | succ d ih =>
    obtain ⟨m', hm⟩ := layer_append_replicate H (zeroHash H k) cs m
    have hlen := congrArg List.length hm
    simp only [layer_length, List.length_append, List.length_replicate] at hlen
    unfold merkleizeAux; rw [hm, ← zeroHash_succ H k]
    apply ih
    rw [layer_length, ← hlen]
    exact half_le (Nat.pow_succ' ▸ h)

theorem foldl_range_succ {α} (f : α → α) (d : Nat) (x : α) :
    (List.range (d + 1)).foldl (fun l _ => f l) x = (List.range d).foldl (fun l _ => f l) (f x) := by
  rw [List.range_succ_eq_map, List.foldl_cons, List.foldl_map]

/-- on a full bottom layer the efficient and the naive reduction coincide -/
theorem merkleizeAux_full (H : Hash) (k d : Nat) (p : List Chunk) (h : p.length = 2 ^ d) :
    merkleizeAux H k d p =
      ((List.range d).foldl (fun l _ => layerNaive H l) p).headD zeroChunk := by
  induction d generalizing k p with
  | zero =>
    match p, h with
    | [a], _ => rfl
  | succ d ih =>
    have hev : p.length % 2 = 0 := by rw [h, Nat.pow_succ, Nat.mul_mod_left]
    unfold merkleizeAux; rw [foldl_range_succ, ← layer_eq_layerNaive H (zeroHash H k) p hev]
    apply ih
    rw [layer_length, h, Nat.pow_succ', Nat.mul_add_div (by decide : 0 < 2)]
    rfl

theorem merkleize_nil (H : Hash) (d : Nat) : merkleize H [] d = zeroHash H d := by
  unfold merkleize; rw [merkleizeAux_nil, Nat.zero_add]

theorem merkleize_split (H : Hash) (chunks : List Chunk) (d : Nat) (h : chunks.length ≤ 2 ^ (d + 1)) :
    merkleize H chunks (d + 1) =
      H (merkleize H (chunks.take (2 ^ d)) d) (merkleize H (chunks.drop (2 ^ d)) d) :=
  merkleizeAux_split H 0 d chunks h

theorem merkleize_append_zero (H : Hash) (chunks : List Chunk) (k d : Nat)
    (h : chunks.length + k ≤ 2 ^ d) :
    merkleize H (chunks ++ List.replicate k zeroChunk) d = merkleize H chunks d :=
  merkleizeAux_append_zero H 0 d chunks k h

/-- the efficient `merkleize` is the naive one of the spec text -/
theorem merkleize_eq_naive (H : Hash) (chunks : List Chunk) (d : Nat) (h : chunks.length ≤ 2 ^ d) :
    merkleize H chunks d = merkleizeNaive H chunks d := by
  unfold merkleizeNaive
  simp only
  have hpad : chunks.length + (2 ^ d - chunks.length) = 2 ^ d := Nat.add_sub_cancel' h
  rw [← merkleizeAux_full H 0 d _ (by rw [List.length_append, List.length_replicate, hpad])]
  exact (merkleize_append_zero H chunks _ d (Nat.le_of_eq hpad)).symm

theorem zeroHash_eq_merkleizeNaive (H : Hash) (d : Nat) : zeroHash H d = merkleizeNaive H [] d := by
  rw [← merkleize_eq_naive H [] d (by simp), merkleize_nil]

end Rmk
