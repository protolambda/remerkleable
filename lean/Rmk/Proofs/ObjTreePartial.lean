/-
`to_obj()` computed FROM A PARTIAL TREE (property C17): on a tree `p` in which subtrees of a complete tree `n`
(representing `v`) were replaced by summary leaves with the same root (`Summ H p n`), `Impl.toObjTree` either
raises (`none`) or returns exactly `Obj.toObj t v` — never a wrong export.
-/
import Rmk.Proofs.ItersLaws
import Rmk.Proofs.NodeIter
import Rmk.Proofs.ObjTreeLaws
import Rmk.Proofs.PartialViews
import Rmk.Proofs.ReprBasics
import Rmk.Proofs.TreeLaws
import Rmk.Proofs.TypeLemmas
namespace Rmk.ObjTreePartial
open Rmk Rmk.Impl Rmk.Spec Rmk.Obj Rmk.ReprBasics Rmk.PartialViews

theorem packedIter_ole (H : Hash) (et : Ty) (p n : Node) (depth len : Nat) (vs : List Val)
    (hs : Summ H p n) (hn : packedIter H et n depth len = some vs) :
    OLe (packedIter H et p depth len) (some vs) := by
  intro xs hx
  obtain ⟨_, _, hlx, _, hrx⟩ := ItersLaws.packedIter_some_index H et p depth len xs hx
  obtain ⟨_, _, hlv, _, hrv⟩ := ItersLaws.packedIter_some_index H et n depth len vs hn
  congr 1
  apply List.ext_getElem (by omega)
  intro i h1 h2
  have ha := hrx i (by omega)
  have hb := hrv i (by omega)
  have hc := ole_packed hs et depth (32 / et.basicSize) i _ ha
  rw [hb] at hc
  simp only [Option.some.injEq] at hc
  rw [ItersLaws.getD_of_lt _ _ _ h1, ItersLaws.getD_of_lt _ _ _ h2] at hc
  exact hc

/-- the node iterator on a summary of `n` yields summaries of the nodes it yields on `n` -/
theorem nodeIter_summ (H : Hash) (p n : Node) (depth len : Nat) (ps ms : List Node)
    (hs : Summ H p n) (hp : nodeIter p depth len = some ps) (hn : nodeIter n depth len = some ms) :
    AllRel (Summ H) ps ms := by
  have hlen := (nodeIter_some_getAt p depth len ps hp).1
  rw [nodeIter_eq_allSome _ _ _ hlen] at hp hn
  obtain ⟨ms', hms, hall⟩ := orel_allSome (S := AllRel (Summ H)) trivial
    (fun _ _ _ _ hr hrs => ⟨hr, hrs⟩) (List.range len) _ _ (fun i _ => summ_getAt hs i depth) ps hp
  cases hn.symm.trans hms
  exact hall

theorem ole_allSome_cons {α} {x : Option α} {xs : List (Option α)} {a : α} {l : List α}
    (h1 : OLe x (some a)) (h2 : OLe (allSome xs) (some l)) :
    OLe (allSome (x :: xs)) (some (a :: l)) := by
  cases x with
  | none => exact ole_none _
  | some b =>
    obtain rfl : a = b := Option.some.inj (h1 b rfl)
    exact ole_map (a :: ·) h2

theorem allSome_toObjTree_ole (H : Hash) (et : Ty)
    (ih : ∀ v p n, Summ H p n → Impl.Repr H et v n →
      OLe (Impl.toObjTree H et p) (some (Obj.toObj et v))) :
    ∀ (vs : List Val) (ps ms : List Node), AllRel (Summ H) ps ms → AllRel (Impl.Repr H et) vs ms →
      OLe (allSome (ps.map fun c => Impl.toObjTree H et c)) (some (vs.map (Obj.toObj et)))
  | [], [], [], _, _ => ole_refl _
  | v :: vs, p :: ps, m :: ms, h1, h2 =>
    ole_allSome_cons (ih v p m h1.1 h2.1) (allSome_toObjTree_ole H et ih vs ps ms h1.2 h2.2)
  | [], _ :: _, [], h, _ => h.elim
  | [], _, _ :: _, _, h => h.elim
  | _ :: _, _, [], _, h => h.elim
  | _ :: _, [], _ :: _, h, _ => h.elim

mutual
theorem toObjTree_ole (H : Hash) (t : Ty) (v : Val) (p n : Node) (hwf : t.wf = true)
    (hlim : ReprBasics.limitsOk t = true) (hs : Summ H p n) (h : Impl.Repr H t v n) :
    OLe (Impl.toObjTree H t p) (some (Obj.toObj t v)) := by
  -- leaf types: the export of `n` is known (`toObjTree_repr`) and the read of `p` agrees or fails; sequences: the
  -- iterators over `p` yield partial versions of the nodes of `n` (`packedIter_ole`, `nodeIter_summ`), then induction
  cases t with
  | uint nb | bool =>
    rw [← ObjTreeLaws.toObjTree_repr H _ v n hwf hlim h]
    unfold toObjTree
    rw [summ_readBasicAt hs]
    exact ole_refl _
  | bitvector k | bitlist k | bytevector k | bytelist k =>
    rw [← ObjTreeLaws.toObjTree_repr H _ v n hwf hlim h]
    unfold toObjTree
    exact ole_map _ (ole_serTree H _ p n hs)
  | vector et len =>
    cases v with
    | seq vs =>
      have hwf' := (Ty.wf_vector hwf).2
      unfold toObjTree toObj
      cases hb : et.isBasic with
      | true =>
        simp only [if_true]
        exact ole_map (fun xs => Obj.tup (xs.map (toObj et))) (packedIter_ole H et p n _ _ vs hs
          (ItersLaws.reads_agree_packed_vector H et len vs n hwf' hb h))
      | false =>
        obtain ⟨ms, hit, hall⟩ := ItersLaws.reads_agree_unpacked_vector H et len vs n hb h
        simp only [Bool.false_eq_true, if_false]
        cases hpi : nodeIter p (getDepth (chunkLen et len)) len with
        | none => exact ole_none _
        | some ps =>
          exact ole_map Obj.tup (allSome_toObjTree_ole H et
            (fun v p n hs hr => toObjTree_ole H et v p n hwf' hlim hs hr) vs ps ms
            (nodeIter_summ H p n _ _ ps ms hs hpi hit) hall)
    | _ => exact h.elim
  | list et lim =>
    cases v with
    | seq vs =>
      have hwf' := Ty.wf_list hwf
      rw [limitsOk, Bool.and_eq_true, decide_eq_true_eq] at hlim
      have hlen : listLength H n = some vs.length := by
        obtain ⟨hle, c, rfl, _⟩ := h
        exact listLength_mixin H c _ (Nat.lt_of_le_of_lt hle hlim.1)
      unfold toObjTree toObj
      cases hpl : listLength H p with
      | none => exact ole_none _
      | some len =>
        cases hlen.symm.trans (summ_listLength hs len hpl)
        cases hb : et.isBasic with
        | true =>
          simp only [if_true]
          exact ole_map (fun xs => Obj.arr (xs.map (toObj et))) (packedIter_ole H et p n _ _ vs hs
            (ItersLaws.reads_agree_packed_list H et lim vs n hwf' hb h))
        | false =>
          obtain ⟨ms, hit, hall⟩ := ItersLaws.reads_agree_unpacked_list H et lim vs n hb h
          simp only [Bool.false_eq_true, if_false]
          cases hpi : nodeIter p (getDepth (chunkLen et lim) + 1) vs.length with
          | none => exact ole_none _
          | some ps =>
            exact ole_map Obj.arr (allSome_toObjTree_ole H et
              (fun v p n hs hr => toObjTree_ole H et v p n hwf' hlim.2 hs hr) vs ps ms
              (nodeIter_summ H p n _ _ ps ms hs hpi hit) hall)
    | _ => exact h.elim
  | container fs =>
    cases v with
    | seq vs =>
      obtain ⟨ms, hit, hf⟩ := ItersLaws.reads_agree_container H fs vs n h
      unfold toObjTree toObj
      cases hpi : nodeIter p (getDepth fs.length) fs.length with
      | none => exact ole_none _
      | some ps =>
        exact ole_map Obj.dict (toObjTreeFields_ole H fs vs ps ms 0 (Ty.wf_container hwf).2 hlim
          (nodeIter_summ H p n _ _ ps ms hs hpi hit) hf)
    | _ => exact h.elim
  | union hasNone opts =>
    cases v with
    | un sel v =>
      obtain ⟨hsel, c', rfl, h⟩ := h
      have hsel' := sel_lt_of_wf hwf hsel
      unfold toObjTree toObj
      cases p with
      | leaf ch => exact ole_none _
      | pair c s =>
        obtain ⟨l', r', heq, hsc, hss⟩ := summ_pair_inv hs
        cases heq
        simp only [getLeft, getRight, summ_readLen hss, readLen_lenNode H sel hsel']
        rw [if_neg (Nat.not_le.2 hsel)]
        by_cases hc : (hasNone && sel == 0) = true
        · simp only [hc, if_true] at h ⊢
          split
          · exact ole_refl _
          · exact ole_none _
        · simp only [hc, Bool.false_eq_true, if_false] at h ⊢
          exact ole_map (fun o => Obj.dict [("selector", Obj.num sel), ("value", o)])
            (toObjTreeOpt_ole H opts _ v c _ (Ty.wf_union hwf).2 hlim hsc h)
    | _ => exact h.elim

theorem toObjTreeFields_ole (H : Hash) (fs : List Ty) (vs : List Val) (ps ms : List Node) (i : Nat)
    (hwf : Ty.wfList fs = true) (hlim : ReprBasics.limitsOkList fs = true)
    (hs : AllRel (Summ H) ps ms) (h : Impl.ReprFields H fs vs ms) :
    OLe (Impl.toObjTreeFields H fs i ps) (some (Obj.toObjFields fs i vs)) := by
  match fs, vs, ms, ps, h, hs with
  | [], [], [], [], _, _ => exact ole_refl _
  | t :: ts, v :: vs, m :: ms, p :: ps, h, hs =>
    have hwf := Ty.wfList_cons hwf
    rw [limitsOkList, Bool.and_eq_true] at hlim
    have ih1 := toObjTree_ole H t v p m hwf.1 hlim.1 hs.1 h.1
    have ih2 := toObjTreeFields_ole H ts vs ps ms (i + 1) hwf.2 hlim.2 hs.2 h.2
    unfold toObjTreeFields toObjFields
    cases hx : Impl.toObjTree H t p with
    | none => exact ole_none _
    | some o =>
      cases ih1 o hx
      cases hy : Impl.toObjTreeFields H ts (i + 1) ps with
      | none => exact ole_none _
      | some os =>
        cases ih2 os hy
        exact ole_refl _

theorem toObjTreeOpt_ole (H : Hash) (opts : List Ty) (k : Nat) (v : Val) (p c : Node)
    (hwf : Ty.wfList opts = true) (hlim : ReprBasics.limitsOkList opts = true)
    (hs : Summ H p c) (h : Impl.ReprOpt H opts k v c) :
    OLe (Impl.toObjTreeOpt H opts k p) (some (Obj.toObjOpt opts k v)) := by
  match opts, k, h with
  | t :: ts, 0, h =>
    rw [limitsOkList, Bool.and_eq_true] at hlim
    exact toObjTree_ole H t v p c (Ty.wfList_cons hwf).1 hlim.1 hs h
  | t :: ts, k + 1, h =>
    rw [limitsOkList, Bool.and_eq_true] at hlim
    exact toObjTreeOpt_ole H ts k v p c (Ty.wfList_cons hwf).2 hlim.2 hs h
end

/-- C17 for `to_obj()`: on a partial tree `p` that summarises a complete tree `n` representing `v`,
    the library's `to_obj()` — computed from the tree through the read-only iterators and the tree-reading
    serialiser — either raises or returns `to_obj` of the plain value: never a wrong export. -/
theorem toObjTree_summ_repr (H : Hash) (t : Ty) (v : Val) (p n : Node) (hwf : t.wf = true)
    (hlim : ReprBasics.limitsOk t = true) (hs : Summ H p n) (h : Impl.Repr H t v n) :
    Impl.toObjTree H t p = none ∨ Impl.toObjTree H t p = some (Obj.toObj t v) :=
  (ole_iff _ _).1 (toObjTree_ole H t v p n hwf hlim hs h)

/-- the same against the export of the complete tree -/
theorem toObjTree_summ (H : Hash) (t : Ty) (v : Val) (p n : Node) (hwf : t.wf = true)
    (hlim : ReprBasics.limitsOk t = true) (hs : Summ H p n) (h : Impl.Repr H t v n) :
    Impl.toObjTree H t p = none ∨ Impl.toObjTree H t p = Impl.toObjTree H t n := by
  rw [ObjTreeLaws.toObjTree_repr H t v n hwf hlim h]
  exact toObjTree_summ_repr H t v p n hwf hlim hs h

theorem toObjTree_summ_some (H : Hash) (t : Ty) (v : Val) (p n : Node) (o : Obj) (hwf : t.wf = true)
    (hlim : ReprBasics.limitsOk t = true) (hs : Summ H p n) (h : Impl.Repr H t v n)
    (ho : Impl.toObjTree H t p = some o) : o = Obj.toObj t v := by
  have := toObjTree_ole H t v p n hwf hlim hs h o ho
  simpa using this.symm

/-! ## non-vacuity: a container of two uint8 fields (1, 2); the second field is given as the summary of
    its leaf, which is that leaf again, so the partial tree here is the complete one -/

/-- the hypotheses are satisfiable, for every pair hash -/
example (H : Hash) :
    Impl.toObjTree H (.container [.uint 1, .uint 1])
        (.pair (.leaf (chunkOfLE 1 1)) (.leaf ((Node.leaf (chunkOfLE 1 2)).root H))) = none ∨
    Impl.toObjTree H (.container [.uint 1, .uint 1])
        (.pair (.leaf (chunkOfLE 1 1)) (.leaf ((Node.leaf (chunkOfLE 1 2)).root H))) =
      some (Obj.toObj (.container [.uint 1, .uint 1]) (.seq [.num 1, .num 2])) :=
  toObjTree_summ_repr H (.container [.uint 1, .uint 1]) (.seq [.num 1, .num 2]) _
    (.pair (.leaf (chunkOfLE 1 1)) (.leaf (chunkOfLE 1 2))) rfl rfl
    (.pair _ _ _ _ (.refl _) (.leaf _))
    (ReprBasics.construct_repr H _ _ _ (by decide) (by rfl))

end Rmk.ObjTreePartial
