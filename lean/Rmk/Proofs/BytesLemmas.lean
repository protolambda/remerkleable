import Rmk.Model.Bytes
namespace Rmk

@[simp] theorem zeros_length (n : Nat) : (zeros n).length = n := by simp [zeros]

@[simp] theorem zeros_zero : zeros 0 = [] := rfl

theorem zeros_succ (n : Nat) : zeros (n + 1) = 0 :: zeros n := by simp [zeros, List.replicate_succ]

theorem zeros_add (m n : Nat) : zeros (m + n) = zeros m ++ zeros n := by
  simp [zeros, List.replicate_append_replicate]

/-- prepending a base-`b` digit `d` to a number below `b ^ k` stays below `b ^ (k + 1)`. -/
theorem digit_lt_pow_succ {b d m k : Nat} (hd : d < b) (hm : m < b ^ k) :
    d + b * m < b ^ (k + 1) :=
  calc d + b * m < b + b * m := Nat.add_lt_add_right hd _
    _ = b * (m + 1) := by rw [Nat.mul_succ, Nat.add_comm]
    _ ≤ b * b ^ k := Nat.mul_le_mul_left b hm
    _ = b ^ (k + 1) := by rw [Nat.pow_succ, Nat.mul_comm]

/-- appending `y` above `k + 1` base-`b` digits leaves the lowest digit `d` in place and appends `y`
    above the remaining `k`. -/
theorem digit_append (b d x k y : Nat) :
    d + b * x + b ^ (k + 1) * y = d + b * (x + b ^ k * y) := by
  rw [Nat.pow_succ, Nat.mul_add, Nat.add_assoc, Nat.mul_comm (b ^ k) b, Nat.mul_assoc]

@[simp] theorem toLE_length (k n : Nat) : (toLE k n).length = k := by
  induction k generalizing n with
  | zero => rfl
  | succ k ih => simp [toLE, ih]

@[simp] theorem fromLE_nil : fromLE [] = 0 := rfl

@[simp] theorem fromLE_cons (b : UInt8) (bs : List UInt8) :
    fromLE (b :: bs) = b.toNat + 256 * fromLE bs := rfl

@[simp] theorem toLE_zero_len (n : Nat) : toLE 0 n = [] := rfl

theorem toLE_succ (k n : Nat) : toLE (k + 1) n = UInt8.ofNat (n % 256) :: toLE k (n / 256) := rfl

theorem fromLE_toLE_mod (k n : Nat) : fromLE (toLE k n) = n % 256 ^ k := by
  induction k generalizing n with
  | zero => simp [Nat.mod_one]
  | succ k ih =>
    have h8 : n % 256 % 2 ^ 8 = n % 256 := Nat.mod_mod _ _
    simp only [toLE_succ, fromLE_cons, ih, UInt8.toNat_ofNat', h8]
    rw [Nat.pow_succ 256 k, Nat.mul_comm (256 ^ k) 256, Nat.mod_mul]

theorem fromLE_toLE (k n : Nat) (h : n < 256 ^ k) : fromLE (toLE k n) = n := by
  rw [fromLE_toLE_mod, Nat.mod_eq_of_lt h]

theorem pow_256_eq (k : Nat) : 256 ^ k = 2 ^ (8 * k) := by
  rw [Nat.pow_mul]

theorem fromLE_toLE' (k n : Nat) (h : n < 2 ^ (8 * k)) : fromLE (toLE k n) = n :=
  fromLE_toLE k n (by rw [pow_256_eq]; exact h)

theorem fromLE_lt (bs : List UInt8) : fromLE bs < 256 ^ bs.length := by
  induction bs with
  | nil => exact Nat.one_pos
  | cons b bs ih => exact digit_lt_pow_succ (UInt8.toNat_lt b) ih

theorem fromLE_lt' (bs : List UInt8) : fromLE bs < 2 ^ (8 * bs.length) := by
  rw [← pow_256_eq]; exact fromLE_lt bs

/-- `toLE` peels off the digit that `fromLE_cons` put on -/
theorem toLE_succ_digit (k : Nat) (b : UInt8) (m : Nat) :
    toLE (k + 1) (b.toNat + 256 * m) = b :: toLE k m := by
  have hb : b.toNat < 256 := UInt8.toNat_lt b
  rw [toLE_succ, Nat.add_mul_mod_self_left, Nat.mod_eq_of_lt hb,
    Nat.add_mul_div_left _ _ (by decide : 0 < 256), Nat.div_eq_of_lt hb, Nat.zero_add,
    UInt8.ofNat_toNat]

@[simp] theorem toLE_fromLE (bs : List UInt8) : toLE bs.length (fromLE bs) = bs := by
  induction bs with
  | nil => rfl
  | cons b bs ih => rw [List.length_cons, fromLE_cons, toLE_succ_digit, ih]

@[simp] theorem fromLE_zeros (n : Nat) : fromLE (zeros n) = 0 := by
  induction n with
  | zero => rfl
  | succ n ih => simp [zeros_succ, ih]

theorem fromLE_append (as bs : List UInt8) :
    fromLE (as ++ bs) = fromLE as + 256 ^ as.length * fromLE bs := by
  induction as with
  | nil => simp
  | cons a as ih =>
    rw [List.cons_append, fromLE_cons, fromLE_cons, ih, List.length_cons, digit_append]

@[simp] theorem fromLE_append_zeros (bs : List UInt8) (n : Nat) :
    fromLE (bs ++ zeros n) = fromLE bs := by
  simp [fromLE_append]

@[simp] theorem toLE_zero (k : Nat) : toLE k 0 = zeros k := by
  induction k with
  | zero => rfl
  | succ k ih => simp [toLE_succ, zeros_succ, ih]

theorem toLE_mod (k n : Nat) : toLE k (n % 256 ^ k) = toLE k n := by
  have h := toLE_fromLE (toLE k n)
  rw [toLE_length, fromLE_toLE_mod] at h
  exact h

theorem toLE_inj {k a b : Nat} (ha : a < 256 ^ k) (hb : b < 256 ^ k)
    (h : toLE k a = toLE k b) : a = b := by
  rw [← fromLE_toLE k a ha, ← fromLE_toLE k b hb, h]

theorem fromLE_inj {as bs : List UInt8} (hl : as.length = bs.length)
    (h : fromLE as = fromLE bs) : as = bs := by
  rw [← toLE_fromLE as, ← toLE_fromLE bs, hl, h]

/-- block `i` of width `n` is one of the `⌈l / n⌉` blocks iff it starts below `l`. -/
theorem lt_ceil_div_iff {n : Nat} (hn : 0 < n) (l i : Nat) : i < (l + n - 1) / n ↔ n * i < l := by
  rw [Nat.lt_iff_add_one_le, Nat.le_div_iff_mul_le hn, Nat.succ_mul, Nat.mul_comm i n,
    Nat.le_sub_one_iff_lt (Nat.add_pos_right l hn), Nat.add_lt_add_iff_right]

section Groups
variable {α : Type _}

@[simp] theorem groupsAux_nil (n fuel : Nat) : groupsAux n fuel ([] : List α) = [] := by
  cases fuel <;> simp [groupsAux]

/-- dropping a positive number of elements pays for one unit of fuel -/
theorem length_drop_le_of_le_succ {n : Nat} (hn : 0 < n) {xs : List α} {f : Nat}
    (h : xs.length ≤ f + 1) : (xs.drop n).length ≤ f := by
  rw [List.length_drop]
  exact Nat.sub_le_of_le_add (Nat.le_trans h (Nat.add_le_add_left hn f))

theorem groupsAux_fuel_irrel {n : Nat} (hn : 0 < n) (f1 f2 : Nat) (xs : List α)
    (h1 : xs.length ≤ f1) (h2 : xs.length ≤ f2) : groupsAux n f1 xs = groupsAux n f2 xs := by
  induction f1 generalizing f2 xs with
  | zero =>
    rw [List.eq_nil_of_length_eq_zero (Nat.le_zero.1 h1), groupsAux_nil, groupsAux_nil]
  | succ f1 ih =>
    cases xs with
    | nil => rw [groupsAux_nil, groupsAux_nil]
    | cons x xs =>
      cases f2 with
      | zero => cases h2
      | succ f2 =>
        simp only [groupsAux, List.isEmpty_cons, Bool.false_eq_true, if_false]
        rw [ih f2 _ (length_drop_le_of_le_succ hn h1) (length_drop_le_of_le_succ hn h2)]

@[simp] theorem groups_nil (n : Nat) : groups n ([] : List α) = [] := rfl

theorem groups_of_ne_nil {n : Nat} (hn : 0 < n) {xs : List α} (h : xs ≠ []) :
    groups n xs = xs.take n :: groups n (xs.drop n) := by
  cases xs with
  | nil => exact absurd rfl h
  | cons x xs =>
    show groupsAux n (xs.length + 1) (x :: xs) = _
    simp only [groupsAux, List.isEmpty_cons, Bool.false_eq_true, if_false]
    rw [groupsAux_fuel_irrel hn _ _ _ (length_drop_le_of_le_succ hn (Nat.le_refl _)) (Nat.le_refl _)]
    rfl

theorem groups_induct {n : Nat} (hn : 0 < n) {P : List α → Prop} (hnil : P [])
    (hstep : ∀ xs, xs ≠ [] → P (xs.drop n) → P xs) : ∀ xs, P xs := by
  intro xs
  generalize hl : xs.length = l
  induction l using Nat.strongRecOn generalizing xs with
  | _ l ih =>
    cases xs with
    | nil => exact hnil
    | cons x xs =>
      apply hstep _ (by simp)
      apply ih ((x :: xs).drop n).length _ _ rfl
      subst hl
      exact Nat.lt_succ_of_le (length_drop_le_of_le_succ hn (Nat.le_refl _))

theorem groups_single {n : Nat} {xs : List α} (h0 : 0 < xs.length) (hn : xs.length ≤ n) :
    groups n xs = [xs] := by
  have hne : xs ≠ [] := by intro h; subst h; simp at h0
  rw [groups_of_ne_nil (Nat.lt_of_lt_of_le h0 hn) hne, List.take_of_length_le hn,
    List.drop_of_length_le hn]
  rfl

@[simp] theorem groups_flatten {n : Nat} (hn : 0 < n) (xs : List α) : (groups n xs).flatten = xs := by
  induction xs using groups_induct hn with
  | hnil => rfl
  | hstep xs hne ih =>
    rw [groups_of_ne_nil hn hne, List.flatten_cons, ih, List.take_append_drop]

theorem groups_length {n : Nat} (hn : 0 < n) (xs : List α) :
    (groups n xs).length = (xs.length + n - 1) / n := by
  induction xs using groups_induct hn with
  | hnil =>
    simp only [groups_nil, List.length_nil, Nat.zero_add]
    exact (Nat.div_eq_of_lt (Nat.sub_one_lt (Nat.ne_of_gt hn))).symm
  | hstep xs hne ih =>
    -- with `xs.length = l + 1` the claim is `… = l / n + 1`
    obtain ⟨l, hl⟩ := Nat.exists_eq_succ_of_ne_zero (mt List.length_eq_zero_iff.1 hne)
    rw [groups_of_ne_nil hn hne, List.length_cons, ih, List.length_drop, hl, Nat.succ_eq_add_one,
      Nat.add_right_comm l 1 n, Nat.add_sub_cancel, Nat.add_div_right _ hn]
    congr 1
    by_cases hle : n ≤ l + 1
    · rw [Nat.sub_add_cancel hle, Nat.add_sub_cancel]
    · have hlt : l + 1 < n := Nat.lt_of_not_le hle
      rw [Nat.sub_eq_zero_of_le (Nat.le_of_lt hlt), Nat.zero_add,
        Nat.div_eq_of_lt (Nat.sub_one_lt (Nat.ne_of_gt hn)),
        Nat.div_eq_of_lt (Nat.lt_of_succ_lt hlt)]

theorem groups_getElem {n : Nat} (hn : 0 < n) (xs : List α) (i : Nat)
    (hi : i < (groups n xs).length) : (groups n xs)[i] = (xs.drop (n * i)).take n := by
  induction xs using groups_induct hn generalizing i with
  | hnil => simp at hi
  | hstep xs hne ih =>
    have hg := groups_of_ne_nil hn hne
    cases i with
    | zero => simp [hg]
    | succ i =>
      have hi' : i < (groups n (xs.drop n)).length := by
        rw [hg] at hi; simpa using hi
      have := ih i hi'
      simp only [hg, List.getElem_cons_succ, this, List.drop_drop, Nat.mul_succ]
      rw [Nat.add_comm]

theorem groups_getElem? {n : Nat} (hn : 0 < n) (xs : List α) (i : Nat) :
    (groups n xs)[i]? = if i < (groups n xs).length then some ((xs.drop (n * i)).take n) else none := by
  split
  · next h => rw [List.getElem?_eq_getElem h, groups_getElem hn]
  · next h => exact List.getElem?_eq_none (Nat.le_of_not_lt h)

theorem lt_groups_length_iff {n : Nat} (hn : 0 < n) (xs : List α) (i : Nat) :
    i < (groups n xs).length ↔ n * i < xs.length := by
  rw [groups_length hn, lt_ceil_div_iff hn]

theorem groups_eq_range_map {n : Nat} (hn : 0 < n) (xs : List α) :
    groups n xs = (List.range ((xs.length + n - 1) / n)).map fun i => (xs.drop (n * i)).take n := by
  apply List.ext_getElem
  · rw [groups_length hn, List.length_map, List.length_range]
  · intro i h1 _
    rw [groups_getElem hn xs i h1, List.getElem_map, List.getElem_range]

theorem exists_of_mem_groups {n : Nat} (hn : 0 < n) {xs g : List α} (hg : g ∈ groups n xs) :
    ∃ i, n * i < xs.length ∧ g = (xs.drop (n * i)).take n := by
  obtain ⟨i, hi, rfl⟩ := List.getElem_of_mem hg
  exact ⟨i, (lt_groups_length_iff hn xs i).1 hi, groups_getElem hn xs i hi⟩

theorem length_le_of_mem_groups {n : Nat} (hn : 0 < n) {xs g : List α} (hg : g ∈ groups n xs) :
    g.length ≤ n := by
  obtain ⟨i, _, rfl⟩ := exists_of_mem_groups hn hg
  rw [List.length_take]
  exact Nat.min_le_left _ _

theorem length_pos_of_mem_groups {n : Nat} (hn : 0 < n) {xs g : List α} (hg : g ∈ groups n xs) :
    0 < g.length := by
  obtain ⟨i, hi, rfl⟩ := exists_of_mem_groups hn hg
  rw [List.length_take, List.length_drop]
  exact Nat.lt_min.2 ⟨hn, Nat.sub_pos_of_lt hi⟩

theorem groups_getElem_length {n : Nat} (hn : 0 < n) (xs : List α) (i : Nat)
    (hi : i + 1 < (groups n xs).length) :
    ((groups n xs)[i]'(by omega)).length = n := by
  rw [lt_groups_length_iff hn, Nat.mul_succ] at hi
  rw [groups_getElem hn, List.length_take, List.length_drop]
  exact Nat.min_eq_left (Nat.le_sub_of_add_le' (Nat.le_of_lt hi))

theorem length_eq_of_mem_groups_of_dvd {n : Nat} (hn : 0 < n) {xs g : List α}
    (hd : n ∣ xs.length) (hg : g ∈ groups n xs) : g.length = n := by
  obtain ⟨i, hi, rfl⟩ := exists_of_mem_groups hn hg
  obtain ⟨k, hk⟩ := hd
  rw [hk] at hi
  have h : n * i + n ≤ n * k := Nat.mul_le_mul_left n (Nat.lt_of_mul_lt_mul_left hi)
  rw [List.length_take, List.length_drop, hk]
  exact Nat.min_eq_left (Nat.le_sub_of_add_le' h)

theorem groups_append {n : Nat} (hn : 0 < n) (xs ys : List α) (hd : n ∣ xs.length) :
    groups n (xs ++ ys) = groups n xs ++ groups n ys := by
  induction xs using groups_induct hn with
  | hnil => simp
  | hstep xs hne ih =>
    have hpos : 0 < xs.length := List.length_pos_iff.mpr hne
    have hle : n ≤ xs.length := Nat.le_of_dvd hpos hd
    have hne' : xs ++ ys ≠ [] := by simp [hne]
    rw [groups_of_ne_nil hn hne', groups_of_ne_nil hn hne, List.take_append_of_le_length hle,
      List.drop_append_of_le_length hle, List.cons_append]
    congr 1
    apply ih
    rw [List.length_drop]
    exact Nat.dvd_sub hd (Nat.dvd_refl n)

theorem groups_append_of_length_eq {n : Nat} (hn : 0 < n) (xs ys : List α) (hl : xs.length = n) :
    groups n (xs ++ ys) = xs :: groups n ys := by
  rw [groups_append hn xs ys (by rw [hl]; exact Nat.dvd_refl n), groups_single (hl ▸ hn) (Nat.le_of_eq hl)]
  rfl

/-- padding every group to width `n` pads the whole list up to the next multiple of `n`. -/
theorem groups_map_pad_flatten {n : Nat} (hn : 0 < n) (a : α) (xs : List α) :
    ((groups n xs).map fun g => g ++ List.replicate (n - g.length) a).flatten
      = xs ++ List.replicate ((n - xs.length % n) % n) a := by
  induction xs using groups_induct hn with
  | hnil => simp [Nat.mod_self]
  | hstep xs hne ih =>
    have hpos : 0 < xs.length := List.length_pos_iff.mpr hne
    by_cases hle : xs.length ≤ n
    · rw [groups_single hpos hle]
      simp only [List.map_cons, List.map_nil, List.flatten_cons, List.flatten_nil, List.append_nil]
      congr 2
      by_cases heq : xs.length = n
      · rw [heq, Nat.mod_self, Nat.sub_zero, Nat.mod_self, Nat.sub_self]
      · rw [Nat.mod_eq_of_lt (Nat.lt_of_le_of_ne hle heq), Nat.mod_eq_of_lt (Nat.sub_lt hn hpos)]
    · have hlt : n ≤ xs.length := Nat.le_of_not_le hle
      rw [groups_of_ne_nil hn hne, List.map_cons, List.flatten_cons, ih, List.length_take,
        List.length_drop, ← Nat.mod_eq_sub_mod hlt, Nat.min_eq_left hlt, Nat.sub_self,
        List.replicate_zero, List.append_nil, ← List.append_assoc, List.take_append_drop]

end Groups

@[simp] theorem natToBits_length (k n : Nat) : (natToBits k n).length = k := by
  induction k generalizing n with
  | zero => rfl
  | succ k ih => simp [natToBits, ih]

@[simp] theorem bitsToNat_nil : bitsToNat [] = 0 := rfl

@[simp] theorem bitsToNat_cons (b : Bool) (bs : List Bool) :
    bitsToNat (b :: bs) = (if b then 1 else 0) + 2 * bitsToNat bs := rfl

@[simp] theorem natToBits_zero_len (n : Nat) : natToBits 0 n = [] := rfl

theorem natToBits_succ (k n : Nat) :
    natToBits (k + 1) n = (n % 2 == 1) :: natToBits k (n / 2) := rfl

theorem bitsToNat_natToBits (k n : Nat) : bitsToNat (natToBits k n) = n % 2 ^ k := by
  induction k generalizing n with
  | zero => simp [Nat.mod_one]
  | succ k ih =>
    simp only [natToBits_succ, bitsToNat_cons, ih]
    rw [Nat.pow_succ, Nat.mul_comm (2 ^ k) 2, Nat.mod_mul]
    rcases Nat.mod_two_eq_zero_or_one n with h | h <;> simp [h]

theorem bitsToNat_natToBits_of_lt (k n : Nat) (h : n < 2 ^ k) : bitsToNat (natToBits k n) = n := by
  rw [bitsToNat_natToBits, Nat.mod_eq_of_lt h]

theorem bitsToNat_lt (bs : List Bool) : bitsToNat bs < 2 ^ bs.length := by
  induction bs with
  | nil => exact Nat.one_pos
  | cons b bs ih => exact digit_lt_pow_succ (by cases b <;> decide) ih

/-- `natToBits` peels off the digit that `bitsToNat_cons` put on -/
theorem natToBits_succ_digit (k : Nat) (b : Bool) (m : Nat) :
    natToBits (k + 1) ((if b then 1 else 0) + 2 * m) = b :: natToBits k m := by
  rw [natToBits_succ, Nat.add_mul_mod_self_left, Nat.add_mul_div_left _ _ (by decide : 0 < 2)]
  cases b <;> simp

@[simp] theorem natToBits_bitsToNat (bs : List Bool) : natToBits bs.length (bitsToNat bs) = bs := by
  induction bs with
  | nil => rfl
  | cons b bs ih => rw [List.length_cons, bitsToNat_cons, natToBits_succ_digit, ih]

@[simp] theorem natToBits_zero (k : Nat) : natToBits k 0 = List.replicate k false := by
  induction k with
  | zero => rfl
  | succ k ih => simp [natToBits_succ, ih, List.replicate_succ]

@[simp] theorem bitsToNat_replicate_false (k : Nat) : bitsToNat (List.replicate k false) = 0 := by
  induction k with
  | zero => rfl
  | succ k ih => simp [List.replicate_succ, ih]

theorem bitsToNat_append (as bs : List Bool) :
    bitsToNat (as ++ bs) = bitsToNat as + 2 ^ as.length * bitsToNat bs := by
  induction as with
  | nil => simp
  | cons a as ih =>
    rw [List.cons_append, bitsToNat_cons, bitsToNat_cons, ih, List.length_cons, digit_append]

@[simp] theorem bitsToNat_append_replicate_false (bs : List Bool) (k : Nat) :
    bitsToNat (bs ++ List.replicate k false) = bitsToNat bs := by
  simp [bitsToNat_append]

theorem natToBits_bitsToNat_of_le (k : Nat) (bs : List Bool) (h : bs.length ≤ k) :
    natToBits k (bitsToNat bs) = bs ++ List.replicate (k - bs.length) false := by
  induction bs generalizing k with
  | nil => simp
  | cons b bs ih =>
    cases k with
    | zero => cases h
    | succ k =>
      rw [bitsToNat_cons, natToBits_succ_digit, ih k (Nat.le_of_succ_le_succ h), List.length_cons,
        Nat.add_sub_add_right]
      rfl

theorem natToBits_inj {k a b : Nat} (ha : a < 2 ^ k) (hb : b < 2 ^ k)
    (h : natToBits k a = natToBits k b) : a = b := by
  rw [← bitsToNat_natToBits_of_lt k a ha, ← bitsToNat_natToBits_of_lt k b hb, h]

theorem bitsToNat_inj {as bs : List Bool} (hl : as.length = bs.length)
    (h : bitsToNat as = bitsToNat bs) : as = bs := by
  rw [← natToBits_bitsToNat as, ← natToBits_bitsToNat bs, hl, h]

@[simp] theorem bitsToBytes_nil : bitsToBytes [] = [] := rfl

@[simp] theorem bytesToBits_nil : bytesToBits [] = [] := rfl

@[simp] theorem bytesToBits_cons (b : UInt8) (bs : List UInt8) :
    bytesToBits (b :: bs) = natToBits 8 b.toNat ++ bytesToBits bs := rfl

theorem bytesToBits_append (as bs : List UInt8) :
    bytesToBits (as ++ bs) = bytesToBits as ++ bytesToBits bs := by
  simp [bytesToBits]

@[simp] theorem bitsToBytes_length (bs : List Bool) : (bitsToBytes bs).length = (bs.length + 7) / 8 := by
  simp only [bitsToBytes, List.length_map, groups_length (by decide : 0 < 8)]
  rfl

@[simp] theorem bytesToBits_length (bs : List UInt8) : (bytesToBits bs).length = 8 * bs.length := by
  induction bs with
  | nil => rfl
  | cons b bs ih =>
    rw [bytesToBits_cons, List.length_append, natToBits_length, ih, List.length_cons, Nat.mul_succ,
      Nat.add_comm]

theorem bitsToBytes_of_ne_nil {bs : List Bool} (h : bs ≠ []) :
    bitsToBytes bs = UInt8.ofNat (bitsToNat (bs.take 8)) :: bitsToBytes (bs.drop 8) := by
  simp only [bitsToBytes, groups_of_ne_nil (by decide : 0 < 8) h, List.map_cons]

theorem bitsToBytes_append_of_length_eq (as bs : List Bool) (h : as.length = 8) :
    bitsToBytes (as ++ bs) = UInt8.ofNat (bitsToNat as) :: bitsToBytes bs := by
  simp only [bitsToBytes, groups_append_of_length_eq (by decide : 0 < 8) as bs h, List.map_cons]

theorem bitsToBytes_append (as bs : List Bool) (h : 8 ∣ as.length) :
    bitsToBytes (as ++ bs) = bitsToBytes as ++ bitsToBytes bs := by
  simp only [bitsToBytes, groups_append (by decide : 0 < 8) as bs h, List.map_append]

theorem toNat_ofNat_bitsToNat {g : List Bool} (h : g.length ≤ 8) :
    (UInt8.ofNat (bitsToNat g)).toNat = bitsToNat g := by
  rw [UInt8.toNat_ofNat']
  apply Nat.mod_eq_of_lt
  exact Nat.lt_of_lt_of_le (bitsToNat_lt g) (Nat.pow_le_pow_right (by decide) h)

theorem bytesToBits_bitsToBytes_eq (bs : List Bool) :
    bytesToBits (bitsToBytes bs)
      = bs ++ List.replicate (8 * ((bs.length + 7) / 8) - bs.length) false := by
  have key : bytesToBits (bitsToBytes bs)
      = bs ++ List.replicate ((8 - bs.length % 8) % 8) false := by
    rw [← groups_map_pad_flatten (by decide : 0 < 8), bytesToBits, bitsToBytes, List.flatMap_def,
      List.map_map]
    congr 1
    apply List.map_congr_left
    intro g hg
    have hle := length_le_of_mem_groups (by decide : 0 < 8) hg
    simp only [Function.comp, toNat_ofNat_bitsToNat hle, natToBits_bitsToNat_of_le 8 g hle]
  -- the amount of padding is read off from the two lengths
  have hl := congrArg List.length key
  rw [bytesToBits_length, bitsToBytes_length, List.length_append, List.length_replicate] at hl
  rw [key, Nat.eq_sub_of_add_eq' hl.symm]

theorem bytesToBits_bitsToBytes (bs : List Bool) :
    (bytesToBits (bitsToBytes bs)).take bs.length = bs := by
  rw [bytesToBits_bitsToBytes_eq, List.take_left]

theorem bytesToBits_bitsToBytes_drop (bs : List Bool) :
    (bytesToBits (bitsToBytes bs)).drop bs.length
      = List.replicate (8 * ((bs.length + 7) / 8) - bs.length) false := by
  rw [bytesToBits_bitsToBytes_eq, List.drop_left]

theorem bytesToBits_bitsToBytes_of_dvd (bs : List Bool) (h : 8 ∣ bs.length) :
    bytesToBits (bitsToBytes bs) = bs := by
  obtain ⟨k, hk⟩ := h
  rw [bytesToBits_bitsToBytes_eq, hk, Nat.mul_add_div (by decide : 0 < 8),
    Nat.div_eq_of_lt (by decide : 7 < 8), Nat.add_zero, Nat.sub_self, List.replicate_zero,
    List.append_nil]

@[simp] theorem bitsToBytes_bytesToBits (bs : List UInt8) : bitsToBytes (bytesToBits bs) = bs := by
  induction bs with
  | nil => rfl
  | cons b bs ih =>
    rw [bytesToBits_cons, bitsToBytes_append_of_length_eq _ _ (natToBits_length 8 _), ih,
      bitsToNat_natToBits]
    have hb := UInt8.toNat_lt b
    rw [Nat.mod_eq_of_lt hb, UInt8.ofNat_toNat]

theorem padRight_length' (bs : List UInt8) (n : Nat) :
    (padRight bs n).length = max bs.length n := by
  rw [padRight, List.length_append, zeros_length, Nat.add_comm, Nat.sub_add_eq_max, Nat.max_comm]

theorem padRight_length (bs : List UInt8) (n : Nat) (h : bs.length ≤ n) :
    (padRight bs n).length = n := by
  rw [padRight_length', Nat.max_eq_right h]

theorem padRight_of_length_ge (bs : List UInt8) (n : Nat) (h : n ≤ bs.length) :
    padRight bs n = bs := by
  rw [padRight, Nat.sub_eq_zero_of_le h, zeros_zero, List.append_nil]

@[simp] theorem padRight_nil (n : Nat) : padRight [] n = zeros n := by simp [padRight]

@[simp] theorem fromLE_padRight (bs : List UInt8) (n : Nat) : fromLE (padRight bs n) = fromLE bs := by
  simp [padRight]

theorem take_padRight (bs : List UInt8) (n : Nat) : (padRight bs n).take bs.length = bs := by
  simp [padRight]

theorem chunkOfLE_length (size n : Nat) (h : size ≤ 32) : (chunkOfLE size n).length = 32 :=
  padRight_length _ _ (by rw [toLE_length]; exact h)

theorem take_chunkOfLE (size n : Nat) : (chunkOfLE size n).take size = toLE size n := by
  have := take_padRight (toLE size n) 32
  rwa [toLE_length] at this

@[simp] theorem fromLE_chunkOfLE (size n : Nat) : fromLE (chunkOfLE size n) = n % 256 ^ size := by
  simp [chunkOfLE, fromLE_toLE_mod]

@[simp] theorem zeroChunk_length : zeroChunk.length = 32 := by simp [zeroChunk]

@[simp] theorem bytesToChunks_nil : bytesToChunks [] = [] := rfl

theorem bytesToChunks_length (bs : List UInt8) :
    (bytesToChunks bs).length = (bs.length + 31) / 32 := by
  simp only [bytesToChunks, List.length_map, groups_length (by decide : 0 < 32)]
  rfl

theorem length_of_mem_bytesToChunks {bs : List UInt8} {c : Chunk} (h : c ∈ bytesToChunks bs) :
    c.length = 32 := by
  simp only [bytesToChunks, List.mem_map] at h
  obtain ⟨g, hg, rfl⟩ := h
  exact padRight_length _ _ (length_le_of_mem_groups (by decide) hg)

theorem bytesToChunks_flatten (bs : List UInt8) :
    (bytesToChunks bs).flatten = bs ++ zeros ((32 - bs.length % 32) % 32) := by
  have := groups_map_pad_flatten (by decide : 0 < 32) (0 : UInt8) bs
  simpa [bytesToChunks, padRight, zeros] using this

theorem bytesToChunks_of_ne_nil {bs : List UInt8} (h : bs ≠ []) :
    bytesToChunks bs = padRight (bs.take 32) 32 :: bytesToChunks (bs.drop 32) := by
  simp only [bytesToChunks, groups_of_ne_nil (by decide : 0 < 32) h, List.map_cons]

theorem bytesToChunks_append (as bs : List UInt8) (h : 32 ∣ as.length) :
    bytesToChunks (as ++ bs) = bytesToChunks as ++ bytesToChunks bs := by
  simp only [bytesToChunks, groups_append (by decide : 0 < 32) as bs h, List.map_append]

theorem take_bytesToChunks_flatten (bs : List UInt8) :
    (bytesToChunks bs).flatten.take bs.length = bs := by
  rw [bytesToChunks_flatten, List.take_left]

theorem le_eight_mul_cdiv (n : Nat) : n ≤ 8 * ((n + 7) / 8) := by
  omega

theorem exists_full_bytes_append {α} (bs : List α) :
    ∃ pre last, bs = pre ++ last ∧ 8 ∣ pre.length ∧ last.length < 8 :=
  ⟨bs.take (8 * (bs.length / 8)), bs.drop (8 * (bs.length / 8)), (List.take_append_drop _ _).symm,
    ⟨bs.length / 8, by rw [List.length_take, Nat.min_eq_left (Nat.mul_div_le _ _)]⟩,
    by rw [List.length_drop, ← Nat.mod_def]; exact Nat.mod_lt _ (by decide)⟩

theorem bitsToBytes_append_last (pre last : List Bool) (hd : 8 ∣ pre.length) (h0 : 0 < last.length)
    (h8 : last.length ≤ 8) :
    bitsToBytes (pre ++ last) = bitsToBytes pre ++ [UInt8.ofNat (bitsToNat last)] := by
  rw [bitsToBytes_append pre last hd]
  simp only [bitsToBytes, groups_single h0 h8, List.map_cons, List.map_nil]

theorem natToBits_take : ∀ (i k n : Nat), i ≤ k → (natToBits k n).take i = natToBits i n := by
  intro i
  induction i with
  | zero => intro k n _; rfl
  | succ i ih =>
    intro k n h
    cases k with
    | zero => exact absurd h (Nat.not_succ_le_zero i)
    | succ k =>
      rw [natToBits_succ, natToBits_succ, List.take_succ_cons, ih k _ (Nat.le_of_succ_le_succ h)]

theorem natToBits_snoc (k n : Nat) :
    natToBits (k + 1) n = natToBits k n ++ [(n / 2 ^ k) % 2 == 1] := by
  induction k generalizing n with
  | zero => simp [natToBits]
  | succ k ih =>
    rw [natToBits_succ, ih (n / 2), natToBits_succ, Nat.div_div_eq_div_mul, Nat.pow_succ,
      Nat.mul_comm 2 (2 ^ k)]
    rfl

theorem bytes_split_last (bs : List UInt8) (hne : bs ≠ []) :
    bs = bs.dropLast ++ [bs.getLastD 0] := by
  cases bs with
  | nil => exact absurd rfl hne
  | cons a l =>
    have h := (List.dropLast_concat_getLast hne).symm
    rw [List.getLast_eq_getLastD] at h
    rw [List.getLastD_cons]
    exact h

theorem bytesToBits_concat_take (init : List UInt8) (b : UInt8) {k : Nat} (h8 : k ≤ 8) :
    (bytesToBits (init ++ [b])).take (init.length * 8 + k)
      = bytesToBits init ++ natToBits k b.toNat := by
  have hl : init.length * 8 = (bytesToBits init).length := by rw [bytesToBits_length, Nat.mul_comm]
  rw [bytesToBits_append, bytesToBits_cons, bytesToBits_nil, List.append_nil, hl,
    List.take_length_add_append, natToBits_take k 8 _ h8]

theorem bitsToBytes_bytes_append_bits (init : List UInt8) (n : Nat) {k : Nat} (h0 : 0 < k)
    (h8 : k ≤ 8) :
    bitsToBytes (bytesToBits init ++ natToBits k n) = init ++ [UInt8.ofNat (n % 2 ^ k)] := by
  rw [bitsToBytes_append_last _ _ ⟨init.length, bytesToBits_length init⟩
      (by rw [natToBits_length]; exact h0) (by rw [natToBits_length]; exact h8),
    bitsToBytes_bytesToBits, bitsToNat_natToBits]

/-- whole bytes, then up to seven bits and one more: the byte count and the last byte -/
theorem bitsToBytes_concat {pre last : List Bool} (b : Bool) {q : Nat} (hq : pre.length = 8 * q)
    (hr : last.length < 8) :
    (bitsToBytes (pre ++ last ++ [b])).length = q + 1 ∧
    ((bitsToBytes (pre ++ last ++ [b])).getLastD 0).toNat = bitsToNat (last ++ [b]) := by
  have h8 : (last ++ [b]).length ≤ 8 := by rw [List.length_append]; exact hr
  have hpre : (bitsToBytes pre).length = q := by
    rw [bitsToBytes_length, hq]; exact Nat.mul_add_div (by decide) q 7
  rw [List.append_assoc, bitsToBytes_append_last pre _ ⟨q, hq⟩ (by simp) h8, List.length_append,
    hpre, List.getLastD_concat, toNat_ofNat_bitsToNat h8]
  exact ⟨rfl, rfl⟩

theorem bitsToNat_append_true (g : List Bool) :
    bitsToNat (g ++ [true]) = 2 ^ g.length + bitsToNat g := by
  rw [bitsToNat_append, Nat.add_comm]; simp

end Rmk
