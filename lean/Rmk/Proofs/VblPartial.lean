/-
`value_byte_length()` on partial trees (property C17 for the size query; complements
`Rmk/Proofs/ByteLengthLaws.lean`, which treats complete trees).

`Summ H p n`: `p` is `n` with some subtrees replaced by summary leaves of their roots.  On a partial
tree `Impl.valueByteLength` either fails or returns what the complete tree returns (`vbl_summ_or`);
for fixed-size types other than `boolean` / `ByteVector` at top level it looks at no node at all
(`vbl_fixed_no_read`), and the loop of `Container.value_byte_length` only looks at the subtrees of
the variable-size fields (`vbl_container_skips_fixed`).
-/
import Rmk.Impl.ByteLength
import Rmk.Proofs.TreeLaws
import Rmk.Proofs.PartialViews
namespace Rmk.VblPartial
open Rmk Rmk.Impl Rmk.Spec
open Rmk.PartialViews

theorem ole_vblSeqWith {H : Hash} {a b : Node} (h : Summ H a b) (vbl : Node → Option Nat)
    (hvbl : ∀ x y, Summ H x y → OLe (vbl x) (vbl y)) (depth len : Nat) :
    OLe (vblSeqWith vbl a depth len) (vblSeqWith vbl b depth len) := by
  unfold vblSeqWith
  exact ole_map _ (ole_allSome _ _ _ (fun i _ =>
    orel_bind_ole (summ_getAt h i depth) hvbl))

mutual
theorem ole_vbl (H : Hash) (t : Ty) (a b : Node) (h : Summ H a b) :
    OLe (valueByteLength H t a) (valueByteLength H t b) := by
  cases t with
  | uint nb => exact ole_refl _
  | bool => unfold valueByteLength; rw [summ_readBasicAt h]; exact ole_refl _
  | bitvector len => exact ole_refl _
  | bitlist lim =>
    unfold valueByteLength
    exact ole_map _ (summ_listLength h)
  | bytevector len =>
    unfold valueByteLength
    exact ole_map _ (ole_readVal H _ a b h)
  | bytelist lim =>
    unfold valueByteLength
    exact (ole_readVal H _ a b h).elim (fun _ => ole_none _) (fun _ => ole_refl _)
  | vector et len =>
    unfold valueByteLength
    exact ole_ite (ole_refl _) (ole_vblSeqWith h _ (ole_vbl H et) _ _)
  | list et lim =>
    unfold valueByteLength
    refine (summ_listLength h).elim (fun _ => ole_none _) (fun len => ?_)
    exact ole_ite (ole_refl _) (ole_vblSeqWith h _ (ole_vbl H et) _ _)
  | container fs =>
    unfold valueByteLength
    exact ole_ite (ole_refl _) (ole_vblFields H fs a b h _ 0)
  | union hasNone opts =>
    refine h.pair_cases (fun _ _ => ole_none _) (fun l r l' r' hl hr => ?_)
    unfold valueByteLength
    dsimp only [getLeft, getRight]
    rw [summ_readLen hr, hl.root_eq]
    exact ole_ite (ole_refl _) (ole_ite (ole_refl _) (ole_map _ (ole_vblOpt H opts _ l l' hl)))
theorem ole_vblFields (H : Hash) (ts : List Ty) (a b : Node) (h : Summ H a b) (depth i : Nat) :
    OLe (vblFields H ts a depth i) (vblFields H ts b depth i) := by
  cases ts with
  | nil => exact ole_refl _
  | cons t ts =>
    unfold vblFields
    refine OLe.elim (ole_ite (ole_refl _) (ole_map _
      (orel_bind_ole (summ_getAt h i depth) (ole_vbl H t))))
      (fun _ => ole_none _) (fun k => ?_)
    exact (ole_vblFields H ts a b h depth (i + 1)).elim (fun _ => ole_none _) (fun _ => ole_refl _)
theorem ole_vblOpt (H : Hash) (ts : List Ty) (k : Nat) (a b : Node) (h : Summ H a b) :
    OLe (vblOpt H ts k a) (vblOpt H ts k b) := by
  match ts, k with
  | [], _ => exact ole_refl _
  | t :: _, 0 => exact ole_vbl H t a b h
  | _ :: ts, k + 1 => exact ole_vblOpt H ts k a b h
end

variable {H : Hash}

theorem vblSeqWith_summ {p n : Node} (h : Summ H p n) (vbl : Node → Option Nat)
    (hvbl : ∀ x y k, Summ H x y → vbl x = some k → vbl y = some k) (depth len k : Nat)
    (hk : vblSeqWith vbl p depth len = some k) : vblSeqWith vbl n depth len = some k :=
  ole_vblSeqWith h vbl (fun x y hs u hu => hvbl x y u hs hu) depth len k hk

/-- Size queries on partial trees: if `value_byte_length()` succeeds on a partial tree it
    returns the value the complete tree gives. -/
theorem vbl_summ {p n : Node} {t : Ty} {k : Nat} (h : Summ H p n)
    (hk : Impl.valueByteLength H t p = some k) : Impl.valueByteLength H t n = some k :=
  ole_vbl H t p n h k hk

theorem vblFields_summ {p n : Node} {fs : List Ty} {depth i k : Nat} (h : Summ H p n)
    (hk : Impl.vblFields H fs p depth i = some k) : Impl.vblFields H fs n depth i = some k :=
  ole_vblFields H fs p n h depth i k hk

theorem vblOpt_summ {p n : Node} {opts : List Ty} {j k : Nat} (h : Summ H p n)
    (hk : Impl.vblOpt H opts j p = some k) : Impl.vblOpt H opts j n = some k :=
  ole_vblOpt H opts j p n h k hk

theorem vbl_summ_or {p n : Node} {t : Ty} (h : Summ H p n) :
    Impl.valueByteLength H t p = none ∨
      Impl.valueByteLength H t p = Impl.valueByteLength H t n :=
  (ole_iff _ _).1 (ole_vbl H t p n h)

theorem vblFields_summ_or {p n : Node} {fs : List Ty} {depth i : Nat} (h : Summ H p n) :
    Impl.vblFields H fs p depth i = none ∨
      Impl.vblFields H fs p depth i = Impl.vblFields H fs n depth i :=
  (ole_iff _ _).1 (ole_vblFields H fs p n h depth i)

theorem vblOpt_summ_or {p n : Node} {opts : List Ty} {j : Nat} (h : Summ H p n) :
    Impl.vblOpt H opts j p = none ∨ Impl.vblOpt H opts j p = Impl.vblOpt H opts j n :=
  (ole_iff _ _).1 (ole_vblOpt H opts j p n h)

theorem vbl_summ_unique {p q n : Node} {t : Ty} {k k' : Nat} (hp : Summ H p n) (hq : Summ H q n)
    (hk : Impl.valueByteLength H t p = some k) (hk' : Impl.valueByteLength H t q = some k') :
    k = k' := by
  have h1 := vbl_summ hp hk
  have h2 := vbl_summ hq hk'
  rw [h1] at h2
  exact Option.some.inj h2

variable (H)

/-- the fixed-size kinds whose `value_byte_length()` looks at no node at all: uintN, Bitvector, a
    Vector of fixed-size elements, a Container of fixed-size fields.  (`boolean` and `ByteVector`
    at TOP level are excluded: their `view_from_backing` is eager and can raise.  As elements /
    fields they are covered, because the enclosing branch only asks `isFixed`.) -/
def NoRead : Ty → Bool
  | .uint _ => true
  | .bitvector _ => true
  | .vector et _ => Spec.isFixed et
  | .container fs => Spec.allFixed fs
  | _ => false

theorem noRead_isFixed (t : Ty) (h : NoRead t = true) : Spec.isFixed t = true := by
  cases t <;> simp_all [NoRead, Spec.isFixed]

theorem vbl_uint (nb : Nat) (n : Node) : Impl.valueByteLength H (.uint nb) n = some nb := rfl

theorem vbl_bitvector (len : Nat) (n : Node) :
    Impl.valueByteLength H (.bitvector len) n = some ((len + 7) / 8) := rfl

theorem vbl_container_allFixed (fs : List Ty) (n : Node) (hf : Spec.allFixed fs = true) :
    Impl.valueByteLength H (.container fs) n = some (Spec.fixedLenSum fs) := by
  unfold valueByteLength; simp only [hf, if_true]

theorem vbl_vector_fixed_elems (et : Ty) (len : Nat) (n : Node) (hf : Spec.isFixed et = true) :
    Impl.valueByteLength H (.vector et len) n = some (Spec.fixedLen (.vector et len)) := by
  unfold valueByteLength; simp only [hf, if_true, Spec.fixedLen, Nat.mul_comm]

/-- List of fixed-size elements: only the length node (right child of the root) is read -/
theorem vbl_list_fixed_elems (et : Ty) (lim : Nat) (n : Node) (hf : Spec.isFixed et = true) :
    Impl.valueByteLength H (.list et lim) n
      = (listLength H n).map fun len => Spec.fixedLen et * len := by
  unfold valueByteLength; simp only [hf, if_true]
  cases listLength H n <;> rfl

/-- … so any two trees with the same length node give the same answer, whatever the contents
    subtree is (in particular a summary leaf) -/
theorem vbl_list_fixed_elems_pair (et : Ty) (lim : Nat) (c c' l : Node)
    (hf : Spec.isFixed et = true) :
    Impl.valueByteLength H (.list et lim) (.pair c l)
      = Impl.valueByteLength H (.list et lim) (.pair c' l) := by
  rw [vbl_list_fixed_elems H et lim _ hf, vbl_list_fixed_elems H et lim _ hf]
  rfl

theorem vbl_list_fixed_elems_some (et : Ty) (lim : Nat) (c l : Node)
    (hf : Spec.isFixed et = true) :
    Impl.valueByteLength H (.list et lim) (.pair c l)
      = some (Spec.fixedLen et * readLen H l) := by
  rw [vbl_list_fixed_elems H et lim _ hf]
  rfl

/-- Bitlist: only the length node is read -/
theorem vbl_bitlist_pair (lim : Nat) (c l : Node) :
    Impl.valueByteLength H (.bitlist lim) (.pair c l) = some ((readLen H l + 8) / 8) := by
  unfold valueByteLength; simp only [listLength, getRight, Option.map_some]

/-- for the kinds of `NoRead` the query returns `type_byte_length()` on EVERY tree -/
theorem vbl_fixed_no_read (t : Ty) (n : Node) (hnr : NoRead t = true) :
    Impl.valueByteLength H t n = some (Spec.fixedLen t) := by
  cases t with
  | uint nb => rfl
  | bitvector len => rfl
  | vector et len => exact vbl_vector_fixed_elems H et len n hnr
  | container fs => rw [vbl_container_allFixed H fs n hnr]; rfl
  | _ => cases hnr

theorem vbl_fixed_any_two (t : Ty) (n n' : Node) (hnr : NoRead t = true) :
    Impl.valueByteLength H t n = Impl.valueByteLength H t n' := by
  rw [vbl_fixed_no_read H t n hnr, vbl_fixed_no_read H t n' hnr]

theorem vbl_fixed_summary_leaf (t : Ty) (n : Node) (hnr : NoRead t = true) :
    Impl.valueByteLength H t (.leaf (n.root H)) = some (Spec.fixedLen t) :=
  vbl_fixed_no_read H t _ hnr

/-- `boolean`, one of the two excluded fixed-size kinds, DOES read: the query fails on a byte that
    is neither 0 nor 1 (no such witness is given for `ByteVector`) -/
theorem vbl_bool_reads : Impl.valueByteLength H .bool (.leaf [2]) = none := rfl

/-- `vblFields` from field `k` on: the positions of fixed-size fields are irrelevant.  If `p` and
    `n` agree at every position whose field type is NOT fixed-size, the loop gives the same result
    (no relation between `p` and `n` is assumed otherwise). -/
theorem vblFields_skips_fixed_from (fs : List Ty) (p n : Node) (depth k : Nat)
    (hagree : ∀ i (hi : i < fs.length), Spec.isFixed fs[i] = false →
      getAt p (k + i) depth = getAt n (k + i) depth) :
    vblFields H fs p depth k = vblFields H fs n depth k := by
  induction fs generalizing k with
  | nil => rfl
  | cons t ts ih =>
    rw [vblFields, vblFields, ih (k + 1) fun i hi hf => by
      rw [Nat.add_assoc, Nat.add_comm 1 i]
      exact hagree (i + 1) (Nat.succ_lt_succ hi) hf]
    cases hf : Spec.isFixed t with
    | true => rfl
    | false => rw [show getAt p k depth = getAt n k depth from hagree 0 (Nat.zero_lt_succ _) hf]

/-- "a size query only needs the dynamic fields" -/
theorem vbl_container_skips_fixed (fs : List Ty) (p n : Node)
    (hagree : ∀ i (hi : i < fs.length), Spec.isFixed fs[i] = false →
      getAt p i (getDepth fs.length) = getAt n i (getDepth fs.length)) :
    Impl.valueByteLength H (.container fs) p = Impl.valueByteLength H (.container fs) n := by
  unfold valueByteLength
  split
  · rfl
  · exact vblFields_skips_fixed_from H fs p n _ 0 fun i hi hf => by
      rw [Nat.zero_add]
      exact hagree i hi hf

private def H0 : Hash := fun a b => a ++ b

/-- `Container{pubkey: ByteVector[48], xs: List[uint16, 9]}` -/
private def exT : Ty := .container [.bytevector 48, .list (.uint 2) 9]

/-- complete tree: 48 bytes in two chunks; the list `[1, 2, 3]` -/
private def exFull : Node :=
  .pair (.pair (.leaf (List.replicate 32 7)) (.leaf (List.replicate 16 7 ++ zeros 16)))
    (.pair (.leaf ([1, 0, 2, 0, 3, 0] ++ zeros 26)) (lenNode 3))

/-- the subtree of the `ByteVector[48]` field -/
private def exKey : Node :=
  .pair (.leaf (List.replicate 32 7)) (.leaf (List.replicate 16 7 ++ zeros 16))

/-- partial tree: the `ByteVector[48]` field subtree is a summary leaf -/
private def exPart : Node :=
  .pair (.leaf (exKey.root H0))
    (.pair (.leaf ([1, 0, 2, 0, 3, 0] ++ zeros 26)) (lenNode 3))

example : Summ H0 exPart exFull := .pair _ _ _ _ (.leaf exKey) (.refl _)

/-- 48 bytes + 4 bytes of offset + 3 * 2 bytes -/
example : Impl.valueByteLength H0 exT exPart = some 58 ∧
    Impl.valueByteLength H0 exT exFull = some 58 := ⟨rfl, rfl⟩

/-- the summarised field itself cannot be read, the size query does not care -/
example : Impl.readVal H0 exT exPart = none := rfl

end Rmk.VblPartial
