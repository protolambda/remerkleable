/-
Generalized indices of typed paths (property C08): `concat_gindices` arithmetic, navigation by a
concatenated index, the shapes of the static gindex of one key, and equality of the library's
static path gindex with the SSZ-spec recurrence.
-/
import Rmk.Impl.Misc
import Rmk.Proofs.Gindex
import Rmk.Proofs.PackArith
import Rmk.Proofs.TreeLaws
import Rmk.Proofs.TypeLemmas
namespace Rmk
open Rmk.Impl

theorem concatStep_spec (out step : Nat) :
    concatStep out step = out * 2 ^ (bitLength step - 1) + (step - 2 ^ (bitLength step - 1)) := rfl

theorem concatStep_two_pow_add (out d i : Nat) (h : i < 2 ^ d) :
    concatStep out (2 ^ d + i) = out * 2 ^ d + i := by
  rw [concatStep_spec, bitLength_two_pow_add d i h, Nat.add_sub_cancel, Nat.add_sub_cancel_left]

theorem two_pow_bitLength_pred_le {g : Nat} (h : g ≠ 0) : 2 ^ (bitLength g - 1) ≤ g := by
  rw [bitLength_pos h]
  exact Nat.log2_self_le h

@[simp] theorem concatStep_one_right (out : Nat) : concatStep out 1 = out := by
  simp [concatStep, bitLength, Nat.log2_def]

theorem concatStep_one_left {g : Nat} (h : g ≠ 0) : concatStep 1 g = g := by
  rw [concatStep_spec, Nat.one_mul, Nat.add_sub_cancel' (two_pow_bitLength_pred_le h)]

theorem concatStep_two_mul (out : Nat) {g : Nat} (h : g ≠ 0) :
    concatStep out (2 * g) = 2 * concatStep out g := by
  have hb : bitLength g - 1 + 1 = bitLength g := Nat.sub_add_cancel (by rw [bitLength_pos h]; omega)
  rw [concatStep_spec, concatStep_spec, bitLength_two_mul h, Nat.add_sub_cancel, ← hb, Nat.pow_succ,
    Nat.add_sub_cancel, Nat.mul_add, Nat.mul_sub, Nat.mul_comm _ 2, Nat.mul_left_comm]

theorem concatStep_two_mul_add_one (out : Nat) {g : Nat} (h : g ≠ 0) :
    concatStep out (2 * g + 1) = 2 * concatStep out g + 1 := by
  have hb : bitLength g - 1 + 1 = bitLength g := Nat.sub_add_cancel (by rw [bitLength_pos h]; omega)
  have hle := Nat.mul_le_mul_left 2 (two_pow_bitLength_pred_le h)
  rw [concatStep_spec, concatStep_spec, bitLength_two_mul_add_one, Nat.add_sub_cancel, ← hb,
    Nat.pow_succ, Nat.add_sub_cancel, Nat.mul_add, Nat.mul_sub, Nat.mul_comm _ 2, Nat.mul_left_comm,
    Nat.sub_add_comm hle, Nat.add_assoc]

theorem concatStep_ne_zero {out step : Nat} (ho : out ≠ 0) : concatStep out step ≠ 0 :=
  Nat.ne_of_gt (Nat.add_pos_left
    (Nat.mul_pos (Nat.pos_of_ne_zero ho) (Nat.two_pow_pos (bitLength step - 1))) _)

theorem gbits_concatStep {out step : Nat} (ho : out ≠ 0) (hs : step ≠ 0) :
    gbits (concatStep out step) = gbits out ++ gbits step := by
  refine gindex_induction (P := fun s => gbits (concatStep out s) = gbits out ++ gbits s)
    ?_ ?_ ?_ step hs
  · simp
  · intro g hg ih
    rw [concatStep_two_mul out hg, gbits_two_mul (concatStep_ne_zero ho), ih, gbits_two_mul hg,
      List.append_assoc]
  · intro g hg ih
    rw [concatStep_two_mul_add_one out hg, gbits_two_mul_add_one (concatStep_ne_zero ho), ih,
      gbits_two_mul_add_one hg, List.append_assoc]

theorem gbits_inj {a b : Nat} (ha : a ≠ 0) (hb : b ≠ 0) (h : gbits a = gbits b) : a = b := by
  rw [← gindexOfPath_gbits ha, ← gindexOfPath_gbits hb, h]

theorem concatStep_assoc {a b c : Nat} (ha : a ≠ 0) (hb : b ≠ 0) (hc : c ≠ 0) :
    concatStep (concatStep a b) c = concatStep a (concatStep b c) := by
  apply gbits_inj (concatStep_ne_zero (concatStep_ne_zero ha)) (concatStep_ne_zero ha)
  rw [gbits_concatStep (concatStep_ne_zero ha) hc, gbits_concatStep ha hb,
    gbits_concatStep ha (concatStep_ne_zero hb), gbits_concatStep hb hc, List.append_assoc]

theorem foldl_concatStep_ne_zero {a : Nat} (ha : a ≠ 0) (xs : List Nat) :
    xs.foldl concatStep a ≠ 0 := by
  induction xs generalizing a with
  | nil => simpa using ha
  | cons x xs ih => exact ih (concatStep_ne_zero ha)

theorem concatGindices_ne_zero (xs : List Nat) : concatGindices xs ≠ 0 :=
  foldl_concatStep_ne_zero (by omega) xs

theorem gbits_foldl_concatStep {a : Nat} (ha : a ≠ 0) (xs : List Nat) (hxs : ∀ x ∈ xs, x ≠ 0) :
    gbits (xs.foldl concatStep a) = gbits a ++ xs.flatMap gbits := by
  induction xs generalizing a with
  | nil => simp
  | cons x xs ih =>
    have hx : x ≠ 0 := hxs x (by simp)
    rw [List.foldl_cons, ih (concatStep_ne_zero ha) (fun y hy => hxs y (by simp [hy])),
      gbits_concatStep ha hx]
    simp

theorem gbits_concatGindices (xs : List Nat) (hxs : ∀ x ∈ xs, x ≠ 0) :
    gbits (concatGindices xs) = xs.flatMap gbits := by
  unfold concatGindices
  rw [gbits_foldl_concatStep (by omega) xs hxs]; simp

theorem concatGindices_nil : concatGindices [] = 1 := rfl

theorem concatGindices_singleton {a : Nat} (ha : a ≠ 0) : concatGindices [a] = a := by
  simp [concatGindices, concatStep_one_left ha]

theorem concatGindices_pair {a : Nat} (ha : a ≠ 0) (b : Nat) :
    concatGindices [a, b] = concatStep a b := by
  simp [concatGindices, concatStep_one_left ha]

theorem concatGindices_append (xs ys : List Nat) :
    concatGindices (xs ++ ys) = ys.foldl concatStep (concatGindices xs) := by
  simp [concatGindices, List.foldl_append]

theorem foldl_concatStep_eq {a : Nat} (ha : a ≠ 0) (ys : List Nat) (hys : ∀ y ∈ ys, y ≠ 0) :
    ys.foldl concatStep a = concatStep a (concatGindices ys) := by
  apply gbits_inj (foldl_concatStep_ne_zero ha ys) (concatStep_ne_zero ha)
  rw [gbits_foldl_concatStep ha ys hys, gbits_concatStep ha (concatGindices_ne_zero ys),
    gbits_concatGindices ys hys]

/-- monoid homomorphism: `concat_gindices(xs + ys) = concat(concat_gindices(xs), concat_gindices(ys))` -/
theorem concatGindices_append_eq (xs ys : List Nat) (hys : ∀ y ∈ ys, y ≠ 0) :
    concatGindices (xs ++ ys) = concatStep (concatGindices xs) (concatGindices ys) := by
  rw [concatGindices_append, foldl_concatStep_eq (concatGindices_ne_zero xs) ys hys]

theorem concatGindices_assoc (xs ys : List Nat) (hys : ∀ y ∈ ys, y ≠ 0) :
    concatGindices [concatGindices xs, concatGindices ys] = concatGindices (xs ++ ys) := by
  rw [concatGindices_pair (concatGindices_ne_zero xs), concatGindices_append,
    foldl_concatStep_eq (concatGindices_ne_zero xs) ys hys]

theorem getter_concatStep (n : Node) {a b : Nat} (ha : a ≠ 0) (hb : b ≠ 0) :
    getter n (concatStep a b) = (getter n a).bind (fun m => getter m b) := by
  simp only [getter, concatStep_ne_zero ha, ha, hb, if_false, gbits_concatStep ha hb,
    getPath_append]

/-- navigation by `concat_gindices([a, b])` is navigation by `a`, then by `b` -/
theorem getPath_concat (n : Node) {a b : Nat} (ha : a ≠ 0) (hb : b ≠ 0) :
    getter n (concatGindices [a, b]) = (getter n a).bind (fun m => getter m b) := by
  rw [concatGindices_pair ha, getter_concatStep n ha hb]

theorem concatStep_two (root : Nat) : concatStep root 2 = root * 2 :=
  concatStep_two_pow_add root 1 0 (by decide)

theorem concatStep_three (root : Nat) : concatStep root 3 = root * 2 + 1 :=
  concatStep_two_pow_add root 1 1 (by decide)

/-- one step of the library's computation: the type reached by `navigate_type` and the running
    gindex extended by the local static gindex; `none` when either function rejects the key -/
def implStep (root : Nat) (t : Ty) (k : Key) : Option (Nat × Option Ty) :=
  match navigateType t k, keyToStaticGindex t k with
  | some t', some g => some (concatStep root g, t')
  | _, _ => none

theorem implStep_eq_some {root : Nat} {t : Ty} {k : Key} {r : Nat} {t' : Option Ty} :
    implStep root t k = some (r, t') ↔
      ∃ s, keyToStaticGindex t k = some s ∧ navigateType t k = some t' ∧ r = concatStep root s := by
  unfold implStep
  cases navigateType t k with
  | none => simp
  | some x =>
    cases keyToStaticGindex t k with
    | none => simp
    | some s => simp [eq_comm, and_comm]

theorem implStep_eq_none (root : Nat) {t : Ty} {k : Key} (h : navigateType t k = none) :
    implStep root t k = none := by
  rw [implStep, h]

/-- an accepted key at position `pos` among the `cc` chunks of a contents subtree below `b` mix-in
    levels: the concatenated gindex is the spec formula `root * 2^b * pow2ceil(cc) + pos` -/
theorem implStep_pos (root : Nat) (t : Ty) (k : Key) {ot : Option Ty} {pos : Nat} (cc b : Nat)
    (hn : navigateType t k = some ot) (hg : keyToStaticGindex t k = toGindex pos (getDepth cc + b))
    (h : pos < 2 ^ getDepth cc) :
    implStep root t k = some (root * 2 ^ b * Spec.pow2ceil cc + pos, ot) := by
  have hlt : pos < 2 ^ (getDepth cc + b) :=
    Nat.lt_of_lt_of_le h (Nat.pow_le_pow_right (by decide) (Nat.le_add_right _ _))
  rw [implStep_eq_some]
  refine ⟨_, hg.trans (toGindex_of_lt hlt), hn, ?_⟩
  rw [concatStep_two_pow_add _ _ _ hlt, Spec.pow2ceil, Nat.pow_add, Nat.mul_assoc,
    Nat.mul_comm (2 ^ b)]

theorem implStep_seq (root : Nat) (t : Ty) (i n : Nat) (et : Ty) (pos cc b : Nat)
    (hn : navigateType t (.idx i) = if i ≥ n then none else some (some et))
    (hg : keyToStaticGindex t (.idx i) = if i ≥ n then none else toGindex pos (getDepth cc + b))
    (hlt : i < n → pos < 2 ^ getDepth cc) :
    implStep root t (.idx i) =
      if i < n then some (root * 2 ^ b * Spec.pow2ceil cc + pos, some et) else none := by
  by_cases hi : i < n
  · have hge := Nat.not_le.2 hi
    rw [if_pos hi, implStep_pos root t _ cc b (hn.trans (if_neg hge)) (hg.trans (if_neg hge)) (hlt hi)]
  · rw [if_neg hi, implStep_eq_none root (hn.trans (if_pos (Nat.not_lt.1 hi)))]

theorem seqPos_lt (et : Ty) {i n : Nat} (hi : i < n) :
    (if et.isBasic then i / (32 / et.basicSize) else i) < 2 ^ getDepth (chunkLen et n) := by
  unfold chunkLen
  split
  · rcases Nat.eq_zero_or_pos (32 / et.basicSize) with h | h
    · rw [h, Nat.div_zero]; exact Nat.two_pow_pos _
    · exact lt_two_pow_getDepth (div_lt_cdiv h hi)
  · exact lt_two_pow_getDepth hi

theorem seqPos_spec (et : Ty) (i : Nat) (hwf : et.wf = true) :
    (if et.isBasic then i / (32 / et.basicSize) else i)
      = (if et.isBasic then i * et.basicSize / 32 else i) := by
  split
  · next hb => exact packedPos_eq (perChunk_mul_basicSize et hwf hb) i
  · rfl

/-- Per-step agreement: for a well-formed type and any key, the library accepts the key iff the
    spec does, the reached types agree, and the concatenated gindex is the spec formula. -/
theorem implStep_eq_spec (root : Nat) (t : Ty) (k : Key) (hwf : t.wf = true) :
    implStep root t k = Spec.gindexStep root t k := by
  -- the six sequence formers are `implStep_seq` at their chunk position, chunk count and mix-in bit (0 without
  -- length, 1 with); container and union keys go through `implStep_pos` / `implStep_eq_some`
  have hlen : ∀ ot : Option Ty, some (concatStep root 3, ot) = some (root * 2 + 1, ot) := fun ot => by
    rw [concatStep_three]
  cases t with
  | uint nb => cases k <;> rfl
  | bool => cases k <;> rfl
  | bitvector n =>
    cases k with
    | idx i =>
      rw [implStep_seq root (.bitvector n) i n .bool (i / 256) ((n + 255) / 256) 0 rfl rfl
        fun hi => lt_two_pow_getDepth (div_lt_cdiv (by decide) hi), Nat.pow_zero, Nat.mul_one]
      rfl
    | len => rfl
    | sel => rfl
  | bitlist lim =>
    cases k with
    | idx i =>
      rw [implStep_seq root (.bitlist lim) i lim .bool (i / 256) ((lim + 255) / 256) 1 rfl rfl
        fun hi => lt_two_pow_getDepth (div_lt_cdiv (by decide) hi), Nat.pow_one]
      rfl
    | len => exact hlen _
    | sel => rfl
  | bytevector n =>
    cases k with
    | idx i =>
      rw [implStep_seq root (.bytevector n) i n (.uint 1) (i / 32) ((n + 31) / 32) 0 rfl rfl
        fun hi => lt_two_pow_getDepth (div_lt_cdiv (by decide) hi), Nat.pow_zero, Nat.mul_one]
      rfl
    | len => rfl
    | sel => rfl
  | bytelist lim =>
    cases k with
    | idx i =>
      rw [implStep_seq root (.bytelist lim) i lim (.uint 1) (i / 32) ((lim + 31) / 32) 1 rfl rfl
        fun hi => lt_two_pow_getDepth (div_lt_cdiv (by decide) hi), Nat.pow_one]
      rfl
    | len => exact hlen _
    | sel => rfl
  | vector et n =>
    have hwe : et.wf = true := by simp only [Ty.wf, Bool.and_eq_true] at hwf; exact hwf.2
    cases k with
    | idx i =>
      rw [implStep_seq root (.vector et n) i n et _ (chunkLen et n) 0 rfl rfl (seqPos_lt et),
        Nat.pow_zero, Nat.mul_one, seqPos_spec et i hwe, chunkLen_eq_chunkCount et n hwe]
      rfl
    | len => rfl
    | sel => rfl
  | list et lim =>
    have hwe : et.wf = true := hwf
    cases k with
    | idx i =>
      rw [implStep_seq root (.list et lim) i lim et _ (chunkLen et lim) 1 rfl rfl (seqPos_lt et),
        Nat.pow_one, seqPos_spec et i hwe, chunkLen_eq_chunkCount et lim hwe]
      rfl
    | len => exact hlen _
    | sel => rfl
  | container fs =>
    cases k with
    | idx i =>
      by_cases hi : i < fs.length
      · have hf := List.getElem?_eq_getElem hi
        rw [implStep_pos root (.container fs) (.idx i) fs.length 0
          (congrArg (Option.map some) hf) (if_neg (Nat.not_le.2 hi)) (lt_two_pow_getDepth hi),
          Nat.pow_zero, Nat.mul_one]
        unfold Spec.gindexStep; simp only [hf]
      · have hf := List.getElem?_eq_none (Nat.not_lt.1 hi)
        rw [implStep_eq_none root (t := .container fs) (k := .idx i)
          (congrArg (Option.map some) hf)]
        unfold Spec.gindexStep; simp only [hf]
    | len => rfl
    | sel => rfl
  | union hasNone opts =>
    cases k with
    | idx i =>
      by_cases hi : i < optCount hasNone opts
      · have hge := Nat.not_le.2 hi
        rw [(implStep_eq_some (t := .union hasNone opts) (k := .idx i)).2
          ⟨2, if_neg hge, if_neg hge, rfl⟩, concatStep_two]
        exact (if_pos hi).symm
      · rw [implStep_eq_none root (t := .union hasNone opts) (k := .idx i)
          (if_pos (Nat.not_lt.1 hi))]
        exact (if_neg hi).symm
    | len => rfl
    | sel => exact hlen _

namespace PathPrefix

/-- number of element positions that share one chunk (one bottom node) of a type's tree -/
def perChunk : Ty → Nat
  | .list et _ => if et.isBasic then 32 / et.basicSize else 1
  | .vector et _ => if et.isBasic then 32 / et.basicSize else 1
  | .bitlist _ => 256
  | .bitvector _ => 256
  | .bytelist _ => 32
  | .bytevector _ => 32
  | _ => 1

end PathPrefix
open PathPrefix (perChunk)

/-- the bottom position of the contents subtree addressed by element / field index `i`; every
    option index of a union addresses its one value node -/
def chunkPos : Ty → Nat → Nat
  | .union _ _, _ => 0
  | t, i => i / perChunk t

theorem seqPos_eq (et : Ty) (i : Nat) :
    (if et.isBasic then i / (32 / et.basicSize) else i)
      = i / (if et.isBasic then 32 / et.basicSize else 1) := by
  split
  · rfl
  · rw [Nat.div_one]

theorem ite_toGindex_eq_some {i n pos d s : Nat}
    (h : (if i ≥ n then none else toGindex pos d) = some s) : i < n ∧ s = 2 ^ d + pos := by
  split at h
  · cases h
  · next hi => exact ⟨Nat.not_le.1 hi, (toGindex_eq_some.1 h).2⟩

/-- Element / field / option keys: the static gindex is `to_gindex(chunkPos, tree_depth)`, and the
    position lies inside the contents subtree (below the mix-in, if there is one) -/
theorem static_idx {t : Ty} {i s : Nat} (h : keyToStaticGindex t (.idx i) = some s) :
    chunkPos t i < 2 ^ contentsDepth t ∧ s = 2 ^ treeDepth t + chunkPos t i := by
  cases t with
  | uint nb => cases h
  | bool => cases h
  | bitvector n | bitlist n =>
    obtain ⟨hi, rfl⟩ := ite_toGindex_eq_some h
    exact ⟨lt_two_pow_getDepth (div_lt_cdiv (c := 256) (by decide) hi), rfl⟩
  | bytevector n | bytelist n =>
    obtain ⟨hi, rfl⟩ := ite_toGindex_eq_some h
    exact ⟨lt_two_pow_getDepth (div_lt_cdiv (c := 32) (by decide) hi), rfl⟩
  | vector et n | list et n =>
    obtain ⟨hi, rfl⟩ := ite_toGindex_eq_some h
    have := seqPos_lt et hi
    rw [seqPos_eq] at this ⊢
    exact ⟨this, rfl⟩
  | container fs =>
    obtain ⟨hi, rfl⟩ := ite_toGindex_eq_some h
    have e : chunkPos (.container fs) i = i := Nat.div_one i
    rw [e]
    exact ⟨lt_two_pow_getDepth hi, rfl⟩
  | union hasNone opts =>
    have h : (if i ≥ optCount hasNone opts then none else some 2) = some s := h
    split at h
    · cases h
    · cases h; exact ⟨Nat.one_pos, rfl⟩

/-- Length / selector keys: the static gindex is 3, the right child of a mix-in root -/
theorem static_len_sel {t : Ty} {k : Key} {s : Nat} (h : keyToStaticGindex t k = some s)
    (hk : k = .len ∨ k = .sel) : hasMixIn t = true ∧ s = 3 := by
  rcases hk with rfl | rfl <;> cases t <;> cases h <;> exact ⟨rfl, rfl⟩

theorem keyToStaticGindex_ne_zero (t : Ty) (k : Key) (g : Nat)
    (h : keyToStaticGindex t k = some g) : g ≠ 0 := by
  cases k with
  | idx i => rw [(static_idx h).2]; exact Nat.ne_of_gt (Nat.add_pos_left (Nat.two_pow_pos _) _)
  | len => rw [(static_len_sel h (.inl rfl)).2]; decide
  | sel => rw [(static_len_sel h (.inr rfl)).2]; decide

theorem ite_toGindex_exists {α} {i n pos d d' : Nat} {x y : Option α}
    (hn : (if i ≥ n then none else x) = y) (hy : y ≠ none) (hlt : i < n → pos < 2 ^ d')
    (hd : d' ≤ d) : ∃ g, (if i ≥ n then none else toGindex pos d) = some g := by
  by_cases hi : i ≥ n
  · rw [if_pos hi] at hn; exact absurd hn.symm hy
  · rw [if_neg hi]
    exact ⟨_, toGindex_of_lt (Nat.lt_of_lt_of_le (hlt (Nat.not_le.1 hi))
      (Nat.pow_le_pow_right (by decide) hd))⟩

/-- `key_to_static_gindex` accepts every key that `navigate_type` accepts -/
theorem static_exists {t : Ty} {k : Key} {ot : Option Ty} (hn : navigateType t k = some ot) :
    ∃ g, keyToStaticGindex t k = some g := by
  have hne : some ot ≠ none := nofun
  cases k with
  | idx i =>
    cases t with
    | uint nb => cases hn
    | bool => cases hn
    | bitvector n | bitlist n =>
      exact ite_toGindex_exists hn hne
        (fun hi => lt_two_pow_getDepth (div_lt_cdiv (c := 256) (by decide) hi)) (Nat.le_add_right _ _)
    | bytevector n | bytelist n =>
      exact ite_toGindex_exists hn hne
        (fun hi => lt_two_pow_getDepth (div_lt_cdiv (c := 32) (by decide) hi)) (Nat.le_add_right _ _)
    | vector et n | list et n =>
      exact ite_toGindex_exists hn hne (seqPos_lt et) (Nat.le_add_right _ _)
    | container fs =>
      have hi : i < fs.length := by
        apply Nat.lt_of_not_le
        intro hle
        rw [navigateType, List.getElem?_eq_none hle] at hn
        cases hn
      exact ⟨_, (if_neg (Nat.not_le.2 hi)).trans (toGindex_of_lt (Nat.lt_of_lt_of_le
        (lt_two_pow_getDepth hi) (Nat.pow_le_pow_right (by decide) (Nat.le_add_right _ _))))⟩
    | union hasNone opts =>
      by_cases hi : i ≥ optCount hasNone opts
      · rw [navigateType, if_pos hi] at hn; cases hn
      · exact ⟨2, if_neg hi⟩
  | len => cases t <;> cases hn <;> exact ⟨3, rfl⟩
  | sel => cases t <;> cases hn <;> exact ⟨3, rfl⟩

def Ty.components : Ty → List Ty
  | .list et _ => [et]
  | .vector et _ => [et]
  | .container fs => fs
  | .union _ opts => opts
  | _ => []

theorem ite_none_some_inj {α} {c : Prop} [Decidable c] {x y : α}
    (h : (if c then none else some x) = some y) : x = y := by
  split at h
  · cases h
  · exact Option.some.inj h

/-- one key leads to a component of the type, or to one of the basic types of lengths and
    selectors, bits, bytes -/
theorem navigateType_cases {t : Ty} {k : Key} {t' : Ty} (h : navigateType t k = some (some t')) :
    t' ∈ t.components ∨ t' = .uint 32 ∨ t' = .bool ∨ t' = .uint 1 := by
  cases k with
  | idx i =>
    cases t with
    | uint nb => cases h
    | bool => cases h
    | bitvector n | bitlist n => cases ite_none_some_inj h; exact .inr (.inr (.inl rfl))
    | bytevector n | bytelist n => cases ite_none_some_inj h; exact .inr (.inr (.inr rfl))
    | vector et n | list et n => cases ite_none_some_inj h; exact .inl List.mem_cons_self
    | container fs =>
      obtain ⟨x, hx, he⟩ := Option.map_eq_some_iff.1 h
      cases he
      exact .inl (List.mem_of_getElem? hx)
    | union hasNone opts =>
      have ho := ite_none_some_inj h
      unfold Spec.optType at ho
      split at ho
      · cases ho
      · exact .inl (List.mem_of_getElem? ho)
  | len => cases t <;> cases h <;> exact .inr (.inl rfl)
  | sel => cases t <;> cases h <;> exact .inr (.inl rfl)

theorem wfList_mem {fs : List Ty} (h : Ty.wfList fs = true) {t : Ty} (ht : t ∈ fs) :
    t.wf = true := by
  obtain ⟨i, hi⟩ := List.getElem?_of_mem ht
  exact wfList_getElem? fs h i t hi

theorem navigateType_wf (t : Ty) (k : Key) (t' : Ty) (hwf : t.wf = true)
    (h : navigateType t k = some (some t')) : t'.wf = true := by
  rcases navigateType_cases h with hm | rfl | rfl | rfl
  · cases t <;> simp only [Ty.components, List.mem_singleton, List.not_mem_nil] at hm <;>
      simp only [Ty.wf, Bool.and_eq_true] at hwf
    · exact hm ▸ hwf.2
    · exact hm ▸ hwf
    · exact wfList_mem hwf.2 hm
    · exact wfList_mem hwf.2 hm
  all_goals rfl

/-- the library's path computation, one key at a time, from a running gindex and an optional anchor
    type; returns the final gindex together with the type at the end of the path -/
def walk : Nat → Option Ty → List Key → Option (Nat × Option Ty)
  | root, ot, [] => some (root, ot)
  | _, none, _ :: _ => none
  | root, some t, k :: ks =>
    match implStep root t k with
    | none => none
    | some (r, t') => walk r t' ks

theorem walk_nil (root : Nat) (ot : Option Ty) : walk root ot [] = some (root, ot) := by
  cases ot <;> rfl

theorem walk_append (ks1 ks2 : List Key) :
    ∀ (root : Nat) (ot : Option Ty),
      walk root ot (ks1 ++ ks2) = (walk root ot ks1).bind (fun p => walk p.1 p.2 ks2) := by
  induction ks1 with
  | nil => intro root ot; rw [walk_nil]; rfl
  | cons k ks ih =>
    intro root ot
    cases ot with
    | none => rfl
    | some t =>
      simp only [List.cons_append, walk]
      cases implStep root t k with
      | none => rfl
      | some rt => exact ih rt.1 rt.2

/-- the library's computation (`Path.from_raw_path`, then the fold of `concat_gindices`), started
    at an arbitrary running gindex `root` and optional anchor type, is the walk -/
theorem foldl_stepGindices_eq_walk (keys : List Key) : ∀ (root : Nat) (ot : Option Ty),
    (buildPath ot keys).bind (fun p => (stepGindices ot p).map (List.foldl concatStep root))
      = (walk root ot keys).map (·.1) := by
  induction keys with
  | nil => intro root ot; cases ot <;> rfl
  | cons k ks ih =>
    intro root ot
    cases ot with
    | none => rfl
    | some t =>
      cases hn : navigateType t k with
      | none => simp only [buildPath, walk, implStep, hn]; rfl
      | some t' =>
        cases hg : keyToStaticGindex t k with
        | none =>
          simp only [buildPath, walk, implStep, hn, hg]
          cases buildPath t' ks <;> simp [stepGindices, hg]
        | some g =>
          simp only [buildPath, walk, implStep, hn, hg, ← ih (concatStep root g) t']
          cases buildPath t' ks with
          | none => rfl
          | some rest => cases hs : stepGindices t' rest <;> simp [stepGindices, hg, hs]

theorem pathGindex_eq_walk (t : Ty) (keys : List Key) :
    pathGindex t keys = (walk 1 (some t) keys).map (·.1) := by
  rw [← foldl_stepGindices_eq_walk]
  unfold pathGindex concatGindices
  cases buildPath (some t) keys <;> rfl

theorem pathGindex_eq_some {t : Ty} {keys : List Key} {g : Nat} :
    pathGindex t keys = some g ↔ ∃ ot, walk 1 (some t) keys = some (g, ot) := by
  rw [pathGindex_eq_walk, Option.map_eq_some_iff]
  constructor
  · rintro ⟨⟨_, ot⟩, h, rfl⟩
    exact ⟨ot, h⟩
  · rintro ⟨ot, h⟩
    exact ⟨_, h, rfl⟩

theorem walk_cons_of_step {t : Ty} {k : Key} {ot : Option Ty} {g : Nat}
    (hn : navigateType t k = some ot) (hg : keyToStaticGindex t k = some g) (root : Nat)
    (ks : List Key) : walk root (some t) (k :: ks) = walk (concatStep root g) ot ks := by
  rw [walk, implStep_eq_some.2 ⟨g, hg, hn, rfl⟩]

theorem walk_eq_spec (keys : List Key) :
    ∀ (root : Nat) (ot : Option Ty), (∀ t, ot = some t → t.wf = true) →
      (walk root ot keys).map (·.1) = Spec.gindex root ot keys := by
  induction keys with
  | nil => intro root ot _; rw [walk_nil]; cases ot <;> rfl
  | cons k ks ih =>
    intro root ot hwf
    cases ot with
    | none => rfl
    | some t =>
      have hwt : t.wf = true := hwf t rfl
      rw [walk, Spec.gindex, ← implStep_eq_spec root t k hwt]
      cases hs : implStep root t k with
      | none => rfl
      | some rt =>
        obtain ⟨_, _, hn, _⟩ := implStep_eq_some.1 hs
        exact ih rt.1 rt.2 fun t'' ht'' => navigateType_wf t k t'' hwt (ht'' ▸ hn)

/-- C08: the static gindex computed by the library for a typed path equals the
    SSZ-spec generalized index, and both reject exactly the same key sequences. -/
theorem pathGindex_eq_spec (t : Ty) (keys : List Key) (hwf : t.wf = true) :
    Impl.pathGindex t keys = Spec.gindex 1 (some t) keys := by
  rw [pathGindex_eq_walk]
  exact walk_eq_spec keys 1 (some t) (by intro t' h; cases h; exact hwf)

def pathEnd : Option Ty → List (Key × Option Ty) → Option Ty
  | ot, [] => ot
  | _, (_, t') :: rest => pathEnd t' rest

/-- a path that `Path.from_raw_path` accepts is walked to its end type -/
theorem walk_of_buildPath (ks : List Key) : ∀ (root : Nat) (ot : Option Ty)
    (p : List (Key × Option Ty)), buildPath ot ks = some p →
      ∃ g, walk root ot ks = some (g, pathEnd ot p) := by
  induction ks with
  | nil => intro root ot p h; cases ot <;> cases h <;> exact ⟨root, rfl⟩
  | cons k ks ih =>
    intro root ot p h
    cases ot with
    | none => cases h
    | some t =>
      rw [buildPath] at h
      cases hn : navigateType t k with
      | none => rw [hn] at h; cases h
      | some t1 =>
        rw [hn] at h
        obtain ⟨rest, hb, rfl⟩ := Option.map_eq_some_iff.1 h
        obtain ⟨s, hs⟩ := static_exists hn
        rw [walk_cons_of_step hn hs]
        exact ih _ t1 rest hb

theorem walk_cons_some {root : Nat} {ot : Option Ty} {k : Key} {ks : List Key} {g : Nat}
    {ot' : Option Ty} (h : walk root ot (k :: ks) = some (g, ot')) :
    ∃ t s t1, ot = some t ∧ keyToStaticGindex t k = some s ∧ navigateType t k = some t1 ∧
      walk (concatStep root s) t1 ks = some (g, ot') := by
  cases ot with
  | none => cases h
  | some t =>
    rw [walk] at h
    cases hs : implStep root t k with
    | none => rw [hs] at h; cases h
    | some rt =>
      rw [hs] at h
      obtain ⟨s, hk, hn, hr⟩ := implStep_eq_some.1 hs
      exact ⟨t, s, rt.2, rfl, hk, hn, hr ▸ h⟩

theorem walk_gbits (keys : List Key) :
    ∀ (root : Nat) (ot : Option Ty) (g : Nat) (ot' : Option Ty), root ≠ 0 →
      walk root ot keys = some (g, ot') → g ≠ 0 ∧ ∃ r, gbits g = gbits root ++ r := by
  induction keys with
  | nil =>
    intro root ot g ot' hr h
    rw [walk_nil] at h
    cases h
    exact ⟨hr, [], (List.append_nil _).symm⟩
  | cons k ks ih =>
    intro root ot g ot' hr h
    obtain ⟨t, s, t1, rfl, hk, _, hw⟩ := walk_cons_some h
    obtain ⟨hg, rest, hrest⟩ := ih _ _ _ _ (concatStep_ne_zero hr) hw
    refine ⟨hg, gbits s ++ rest, ?_⟩
    rw [hrest, gbits_concatStep hr (keyToStaticGindex_ne_zero t k s hk), List.append_assoc]

theorem walk_concatStep {a : Nat} (ha : a ≠ 0) (ks : List Key) : ∀ {b : Nat} (ot : Option Ty),
    b ≠ 0 → walk (concatStep a b) ot ks = (walk b ot ks).map fun p => (concatStep a p.1, p.2) := by
  induction ks with
  | nil => intro b ot _; rw [walk_nil, walk_nil]; rfl
  | cons k ks ih =>
    intro b ot hb
    cases ot with
    | none => rfl
    | some t =>
      cases hn : navigateType t k with
      | none => rw [walk, walk, implStep_eq_none _ hn, implStep_eq_none _ hn]; rfl
      | some t1 =>
        obtain ⟨s, hs⟩ := static_exists hn
        rw [walk_cons_of_step hn hs, walk_cons_of_step hn hs,
          concatStep_assoc ha hb (keyToStaticGindex_ne_zero t k s hs)]
        exact ih t1 (concatStep_ne_zero hb)

/-- concatenating paths concatenates their gindices: for `ks1` a valid path from `t` ending in
    type `t'`, `(t / ks1 / ks2).gindex() = concat_gindices([(t / ks1).gindex(), (t' / ks2).gindex()])`
    (and the left side is rejected exactly when one of the right-hand parts is). -/
theorem pathGindex_append (t t' : Ty) (ks1 ks2 : List Key) (p1 : List (Key × Option Ty))
    (hp : Impl.buildPath (some t) ks1 = some p1) (hend : pathEnd (some t) p1 = some t') :
    Impl.pathGindex t (ks1 ++ ks2) =
      (do let a ← Impl.pathGindex t ks1
          let b ← Impl.pathGindex t' ks2
          pure (concatGindices [a, b])) := by
  obtain ⟨a, hw⟩ := walk_of_buildPath ks1 1 (some t) p1 hp
  have ha : a ≠ 0 := (walk_gbits ks1 1 _ a _ Nat.one_ne_zero hw).1
  have h2 := walk_concatStep ha ks2 (some t') Nat.one_ne_zero
  rw [concatStep_one_right] at h2
  rw [pathGindex_eq_walk, pathGindex_eq_walk, pathGindex_eq_walk, walk_append, hw, hend]
  simp only [Option.bind_some, Option.map_some, h2]
  cases walk 1 (some t') ks2 with
  | none => rfl
  | some p => exact congrArg some (concatGindices_pair ha p.1).symm

/-! Non-vacuity: a concrete well-formed type with a valid and an invalid path. -/

private def tEx : Ty := .container [.uint 8, .list (.uint 2) 100]

example : tEx.wf = true := by decide +kernel
example : Impl.pathGindex tEx [.idx 1, .idx 37] = some 50 ∧
    Spec.gindex 1 (some tEx) [.idx 1, .idx 37] = some 50 := by decide +kernel
example : Impl.pathGindex tEx [.idx 1, .idx 100] = none ∧
    Impl.pathGindex tEx [.idx 1, .len] = some 7 := by decide +kernel
example : Impl.buildPath (some tEx) [.idx 1] = some [(.idx 1, some (.list (.uint 2) 100))] := rfl

end Rmk
