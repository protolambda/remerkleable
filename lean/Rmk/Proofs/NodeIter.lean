/-
The stack-machine iterator `Impl.nodeIter` (readonly_iters.NodeIter) agrees with direct navigation
`Impl.getAt` (property C15).
-/
import Rmk.Impl.Misc
import Rmk.Proofs.ChunkTree
import Rmk.Proofs.Gindex
import Rmk.Proofs.ListRel
import Rmk.Proofs.TreeLaws
namespace Rmk
open Rmk.Impl

/-- an even and an odd number differ in the low bit; above it the `xor` is that of the halves -/
theorem two_mul_xor_two_mul_succ (a b : Nat) : (2 * a) ^^^ (2 * b + 1) = 2 * (a ^^^ b) + 1 := by
  have hd : ((2 * a) ^^^ (2 * b + 1)) / 2 = a ^^^ b := by
    rw [Nat.xor_div_two, Nat.mul_div_cancel_left _ (by decide : 0 < 2), two_mul_add_one_div_two]
  have hm : ((2 * a) ^^^ (2 * b + 1)) % 2 = 1 := by
    rw [Nat.xor_mod_two_eq_one, Nat.mul_mod_right, Nat.mul_add_mod]
    decide
  rw [← Nat.div_add_mod ((2 * a) ^^^ (2 * b + 1)) 2, hd, hm]

theorem two_mul_succ_xor_two_mul (a : Nat) : (2 * a + 1) ^^^ (2 * a) = 1 := by
  rw [Nat.xor_comm, two_mul_xor_two_mul_succ, Nat.xor_self]

/-- The shape of the paths of two consecutive bottom positions `i-1`, `i` of a depth-`depth` subtree,
    with `k+1 = bitLength (i xor (i-1))` (= number of trailing zeros of `i`, plus one): a common
    prefix `p` of length `depth - (k+1)`, then `1 0…0` for `i` and `0 1…1` for `i-1`. -/
theorem pbits_pred_split (depth i : Nat) (hi : 0 < i) (hlt : i < 2 ^ depth) :
    ∃ (p : List Bool) (k : Nat),
      bitLength (i ^^^ (i - 1)) = k + 1 ∧ p.length + (k + 1) = depth ∧
      pbits depth i = p ++ true :: List.replicate k false ∧
      pbits depth (i - 1) = p ++ false :: List.replicate k true := by
  induction depth generalizing i with
  | zero => exact absurd hlt (Nat.not_lt.2 hi)
  | succ d ih =>
    rcases Nat.mod_two_eq_zero_or_one i with hm | hm
    · -- `i = 2(m+1)`: one more trailing zero than `m+1`
      obtain ⟨m, rfl⟩ : ∃ m, i = 2 * m := ⟨i / 2, (hm ▸ Nat.div_add_mod i 2).symm⟩
      obtain ⟨m, rfl⟩ := Nat.exists_eq_succ_of_ne_zero (Nat.ne_of_gt (Nat.pos_of_mul_pos_left hi))
      rw [Nat.pow_succ'] at hlt
      obtain ⟨p, k, hbl, hlen, h1, h2⟩ := ih (m + 1) (Nat.succ_pos m) (Nat.lt_of_mul_lt_mul_left hlt)
      have hpred : 2 * (m + 1) - 1 = 2 * (m + 1 - 1) + 1 := rfl
      refine ⟨p, k + 1, ?_, by rw [← hlen]; rfl, ?_, ?_⟩
      · rw [hpred, two_mul_xor_two_mul_succ, bitLength_two_mul_add_one, hbl]
      · rw [pbits_succ_two_mul, h1, List.replicate_succ', List.append_assoc, List.cons_append]
      · rw [hpred, pbits_succ_two_mul_add_one, h2, List.replicate_succ', List.append_assoc,
          List.cons_append]
    · -- `i = 2m + 1`: no trailing zero
      obtain ⟨m, rfl⟩ : ∃ m, i = 2 * m + 1 := ⟨i / 2, (hm ▸ Nat.div_add_mod i 2).symm⟩
      rw [Nat.add_sub_cancel]
      refine ⟨pbits d m, 0, ?_, by rw [pbits_length], pbits_succ_two_mul_add_one d m,
        pbits_succ_two_mul d m⟩
      rw [two_mul_succ_xor_two_mul, bitLength_one]

/-- `bitLength (i xor (i-1))` never exceeds the depth for an in-range position -/
theorem bitLength_xor_pred_le (depth i : Nat) (hi : 0 < i) (hlt : i < 2 ^ depth) :
    1 ≤ bitLength (i ^^^ (i - 1)) ∧ bitLength (i ^^^ (i - 1)) ≤ depth := by
  obtain ⟨p, k, hbl, hlen, _, _⟩ := pbits_pred_split depth i hi hlt
  rw [hbl, ← hlen]
  exact ⟨Nat.le_add_left 1 k, Nat.le_add_left _ _⟩

/-- `descendLeft k x node stack` yields the node at the all-left path of length `k` below `node` -/
theorem descendLeft_fst (k x : Nat) (node : Node) (stack : List (Option Node)) :
    (descendLeft k x node stack).map Prod.fst = getPath node (List.replicate k false) := by
  induction k generalizing x node stack with
  | zero => exact (getPath_nil node).symm
  | succ k ih =>
    cases node with
    | leaf c => rfl
    | pair l r => exact ih (x + 1) l _

/-- ... and it overwrites `stack[x+j]` (`j < k`) with the node `j` steps below `node`, and nothing
    else. -/
theorem descendLeft_stack (k x : Nat) (node : Node) (stack : List (Option Node)) (leaf : Node)
    (stack' : List (Option Node)) (h : descendLeft k x node stack = some (leaf, stack')) :
    stack'.length = stack.length ∧
      (∀ y, y < x → stack'[y]? = stack[y]?) ∧
      (∀ j, j < k → x + j < stack.length →
        stack'[x + j]? = some (getPath node (List.replicate j false))) := by
  induction k generalizing x node stack with
  | zero =>
    cases h
    exact ⟨rfl, fun _ _ => rfl, fun j hj => absurd hj (Nat.not_lt_zero j)⟩
  | succ k ih =>
    cases node with
    | leaf c => cases h
    | pair l r =>
      obtain ⟨hl, hlow, hnew⟩ := ih (x + 1) l (stack.set x (some (.pair l r))) h
      rw [List.length_set] at hl hnew
      refine ⟨hl, fun y hy => ?_, fun j hj hjl => ?_⟩
      · rw [hlow y (Nat.lt_succ_of_lt hy), List.getElem?_set_ne (Nat.ne_of_gt hy)]
      · cases j with
        | zero =>
          rw [Nat.add_zero] at hjl ⊢
          rw [hlow x (Nat.lt_succ_self x), List.getElem?_set_self hjl]
          rfl
        | succ j =>
          rw [← Nat.add_assoc, Nat.add_right_comm] at hjl ⊢
          rw [hnew j (Nat.lt_of_succ_lt_succ hj) hjl]
          rfl

/-- Invariant of `NodeIter` between two `__next__` calls: the stack has `depth` slots and, once a node
    has been yielded (`i ≥ 1`), `stack[x]` is the depth-`x` ancestor of the last yielded bottom node
    `i-1` (the result of navigating the length-`x` prefix of its path). -/
def NodeIterInv (anchor : Node) (depth : Nat) (st : NodeIterState) : Prop :=
  st.stack.length = depth ∧
  (st.i ≠ 0 → ∀ x, x < depth →
    st.stack[x]? = some (getPath anchor ((pbits depth (st.i - 1)).take x)))

theorem nodeIterInv_init (anchor : Node) (depth : Nat) :
    NodeIterInv anchor depth { i := 0, stack := List.replicate depth none } := by
  refine ⟨by simp, ?_⟩
  intro h; simp at h

/-- Both branches of `__next__` in one form: restart at the node with path `q` (the anchor itself, or
    the right child of the stack slot backtracked to), whose proper ancestors are on the stack, and
    descend left `k` times.  The result is the node at `q ++ 0…0`, and the stack then holds all its
    ancestors. -/
theorem descend_spec (anchor : Node) (q : List Bool) (k i' : Nat) (stack : List (Option Node))
    (hlen : stack.length = q.length + k)
    (hst : ∀ y, y < q.length → stack[y]? = some (getPath anchor (q.take y))) :
    let next : Option (Node × NodeIterState) :=
      ((getPath anchor q).bind fun node => descendLeft k q.length node stack).map
        fun ls => (ls.1, { i := i', stack := ls.2 })
    next.map Prod.fst = getPath anchor (q ++ List.replicate k false) ∧
    ∀ leaf st', next = some (leaf, st') → st'.i = i' ∧ st'.stack.length = q.length + k ∧
      ∀ y, y < q.length + k →
        st'.stack[y]? = some (getPath anchor ((q ++ List.replicate k false).take y)) := by
  intro next
  rw [getPath_append]
  cases hq : getPath anchor q with
  | none => exact ⟨by unfold next; simp [hq], fun _ _ h => by unfold next at h; simp [hq] at h⟩
  | some node =>
    have hnext : next = (descendLeft k q.length node stack).map
        fun ls => (ls.1, { i := i', stack := ls.2 }) := by unfold next; simp [hq]
    rw [hnext, Option.bind_some, ← descendLeft_fst k q.length node stack, Option.map_map]
    refine ⟨rfl, fun leaf st' h => ?_⟩
    obtain ⟨⟨leaf', stack'⟩, hd, heq⟩ := Option.map_eq_some_iff.1 h
    cases heq
    obtain ⟨hl, hlow, hnew⟩ := descendLeft_stack k q.length node stack _ _ hd
    refine ⟨rfl, hl.trans hlen, fun y hy => ?_⟩
    by_cases hyq : y < q.length
    · rw [hlow y hyq, hst y hyq, List.take_append_of_le_length (Nat.le_of_lt hyq)]
    · obtain ⟨j, rfl⟩ := Nat.exists_eq_add_of_le (Nat.le_of_not_lt hyq)
      have hj : j < k := Nat.lt_of_add_lt_add_left hy
      rw [hnew j hj (hlen ▸ hy), List.take_length_add_append, List.take_replicate,
        Nat.min_eq_left (Nat.le_of_lt hj), getPath_append, hq]
      rfl

theorem nodeIterNext_zero (anchor : Node) (depth : Nat) (stack : List (Option Node)) :
    nodeIterNext anchor depth ⟨0, stack⟩ =
      (descendLeft depth 0 anchor stack).map fun ls => (ls.1, { i := 1, stack := ls.2 }) := by
  unfold nodeIterNext; simp only [bne_self_eq_false, Bool.false_eq_true, if_false, Nat.sub_zero,
    Nat.zero_add]
  cases descendLeft depth 0 anchor stack with
  | none => rfl
  | some ls => rfl

/-- what one `__next__` reads for `i ≠ 0`: the right child of the stack slot `idx` it backtracks to -/
theorem nodeIterNext_pos (anchor : Node) (depth i : Nat) (stack : List (Option Node)) (hi : i ≠ 0)
    (idx : Nat) (hidx : depth - bitLength (i ^^^ (i - 1)) = idx) (o : Option Node)
    (hs : stack[idx]? = some o) :
    nodeIterNext anchor depth ⟨i, stack⟩ =
      ((o.bind getRight).bind fun r => descendLeft (depth - (idx + 1)) (idx + 1) r stack).map
        fun ls => (ls.1, { i := i + 1, stack := ls.2 }) := by
  subst hidx
  unfold nodeIterNext; simp only [bne_iff_ne, ne_eq, hi, not_false_eq_true, if_true, shiftCount,
    List.getD_eq_getElem?_getD, hs, Option.getD_some]
  cases o with
  | none => rfl
  | some node =>
    cases node with
    | leaf c => rfl
    | pair l r =>
      cases h : descendLeft (depth - (depth - bitLength (i ^^^ (i - 1)) + 1))
        (depth - bitLength (i ^^^ (i - 1)) + 1) r stack <;> simp [getRight, h]

/-- One step of the iterator at an in-range position: `__next__` yields exactly what direct
    navigation to bottom position `i` finds (and raises when that fails); when it yields, the
    position advances and the invariant is re-established. -/
theorem nodeIterNext_getAt (anchor : Node) (depth : Nat) (st : NodeIterState)
    (hinv : NodeIterInv anchor depth st) (hlt : st.i < 2 ^ depth) :
    (nodeIterNext anchor depth st).map Prod.fst = getAt anchor st.i depth ∧
    ∀ leaf st', nodeIterNext anchor depth st = some (leaf, st') →
      st'.i = st.i + 1 ∧ NodeIterInv anchor depth st' := by
  obtain ⟨i, stack⟩ := st
  obtain ⟨hlen, hst⟩ := hinv
  simp only at hlen hst hlt ⊢
  rw [getAt_of_lt anchor hlt]
  by_cases hi : i = 0
  · subst hi
    have := descend_spec anchor [] depth 1 stack (by simpa using hlen)
      (fun y hy => absurd hy (Nat.not_lt_zero y))
    rw [nodeIterNext_zero, ChunkTreeLemmas.pbits_zero_eq]
    simp only [getPath_nil, Option.bind_some, List.length_nil, List.nil_append, Nat.zero_add] at this
    refine ⟨this.1, fun leaf st' h => ?_⟩
    obtain ⟨hi', hl', hs'⟩ := this.2 leaf st' h
    refine ⟨hi', hl', fun _ => ?_⟩
    rwa [hi', Nat.sub_self, ChunkTreeLemmas.pbits_zero_eq]
  · obtain ⟨p, k, hbl, hpl, hpi, hpp⟩ := pbits_pred_split depth i (Nat.pos_of_ne_zero hi) hlt
    have hpd : p.length + 1 ≤ depth :=
      hpl ▸ Nat.add_le_add_left (Nat.succ_le_succ (Nat.zero_le k)) p.length
    have hslot : stack[p.length]? = some (getPath anchor p) := by
      rw [hst hi p.length hpd, hpp, List.take_left' rfl]
    have := descend_spec anchor (p ++ [true]) k (i + 1) stack
      (by rw [hlen, List.length_append, List.length_singleton, Nat.add_assoc, Nat.add_comm 1 k, hpl])
      (fun y hy => by
        rw [List.length_append, List.length_singleton] at hy
        have hyp : y ≤ p.length := Nat.le_of_lt_succ hy
        rw [hst hi y (Nat.lt_of_lt_of_le hy hpd), hpp, List.take_append_of_le_length hyp,
          List.take_append_of_le_length hyp])
    have hidx : depth - bitLength (i ^^^ (i - 1)) = p.length := by
      rw [hbl, ← hpl, Nat.add_sub_cancel]
    rw [nodeIterNext_pos anchor depth i stack hi p.length hidx _ hslot,
      Nat.sub_eq_of_eq_add (hpl.symm.trans (Nat.add_left_comm p.length k 1)), hpi]
    rw [getPath_snoc_true, List.length_append, List.length_singleton, List.append_assoc,
      List.singleton_append, Nat.add_assoc, Nat.add_comm 1 k, hpl] at this
    refine ⟨this.1, fun leaf st' h => ?_⟩
    obtain ⟨hi', hl', hs'⟩ := this.2 leaf st' h
    refine ⟨hi', hl', fun _ => ?_⟩
    rwa [hi', Nat.add_sub_cancel, hpi]

/-- One step: if direct navigation to bottom position `i` succeeds, `__next__` yields that node and
    re-establishes the invariant. -/
theorem nodeIterNext_spec (anchor : Node) (depth : Nat) (st : NodeIterState) (leaf : Node)
    (hinv : NodeIterInv anchor depth st) (hget : getAt anchor st.i depth = some leaf) :
    ∃ st', nodeIterNext anchor depth st = some (leaf, st') ∧ st'.i = st.i + 1 ∧
      NodeIterInv anchor depth st' := by
  have hlt : st.i < 2 ^ depth := Nat.lt_of_not_le fun hge => by
    rw [getAt_of_ge anchor hge] at hget
    cases hget
  obtain ⟨hfst, hstep⟩ := nodeIterNext_getAt anchor depth st hinv hlt
  rw [hget] at hfst
  obtain ⟨⟨leaf', st'⟩, hnext, heq⟩ := Option.map_eq_some_iff.1 hfst
  cases heq
  exact ⟨st', hnext, hstep _ st' hnext⟩

/-- Converse of one step: whatever `__next__` yields is the node direct navigation finds. -/
theorem nodeIterNext_sound (anchor : Node) (depth : Nat) (st : NodeIterState) (leaf : Node)
    (st' : NodeIterState) (hinv : NodeIterInv anchor depth st) (hlt : st.i < 2 ^ depth)
    (hnext : nodeIterNext anchor depth st = some (leaf, st')) :
    getAt anchor st.i depth = some leaf := by
  rw [← (nodeIterNext_getAt anchor depth st hinv hlt).1, hnext]
  rfl

theorem nodeIterRun_eq_allSome (anchor : Node) (depth m : Nat) (st : NodeIterState)
    (hinv : NodeIterInv anchor depth st) (hb : st.i + m ≤ 2 ^ depth) :
    nodeIterRun anchor depth m st = allSome ((List.range' st.i m).map (getAt anchor · depth)) := by
  induction m generalizing st with
  | zero => rfl
  | succ m ih =>
    obtain ⟨hfst, hstep⟩ := nodeIterNext_getAt anchor depth st hinv
      (Nat.lt_of_lt_of_le (Nat.lt_add_of_pos_right (Nat.succ_pos m)) hb)
    unfold nodeIterRun; rw [List.range'_succ, List.map_cons, ← hfst]
    cases hnext : nodeIterNext anchor depth st with
    | none => rfl
    | some r =>
      obtain ⟨hi', hinv'⟩ := hstep r.1 r.2 hnext
      rw [← hi']
      exact congrArg (Option.map (r.1 :: ·)) (ih r.2 hinv' (by rwa [hi', Nat.add_right_comm]))

/-- C15 as an equation: `NodeIter(anchor, depth, length)` yields the results of direct navigation
    `getter(to_gindex(i, depth))` at `i = 0 … length-1`, and raises iff one of these does. -/
theorem nodeIter_eq_allSome (anchor : Node) (depth length : Nat) (hlen : length ≤ 2 ^ depth) :
    nodeIter anchor depth length = allSome ((List.range length).map (getAt anchor · depth)) := by
  unfold nodeIter; rw [if_neg (Nat.not_lt.2 hlen), List.range_eq_range']
  exact nodeIterRun_eq_allSome anchor depth length _ (nodeIterInv_init anchor depth)
    (by rwa [Nat.zero_add])

theorem nodeIter_zero (anchor : Node) (depth : Nat) : nodeIter anchor depth 0 = some [] := by
  simp [nodeIter, nodeIterRun]

theorem nodeIter_too_long (anchor : Node) (depth length : Nat) (h : 2 ^ depth < length) :
    nodeIter anchor depth length = none := by
  simp [nodeIter, h]

/-- `nodeIter` succeeds iff every `getAt` succeeds, and then the yielded list is the list of the
    `getAt` results. -/
theorem nodeIter_eq_some_iff (anchor : Node) (depth length : Nat) (nodes : List Node) :
    nodeIter anchor depth length = some nodes ↔
      (length ≤ 2 ^ depth ∧ nodes.length = length ∧
        ∀ i, i < length → getAt anchor i depth = some (nodes.getD i default)) := by
  by_cases hlen : length ≤ 2 ^ depth
  · rw [nodeIter_eq_allSome anchor depth length hlen, allSome_range_iff_getD default]
    simp only [hlen, true_and]
  · rw [nodeIter_too_long anchor depth length (Nat.lt_of_not_le hlen)]
    exact ⟨fun h => (nomatch h), fun h => absurd h.1 hlen⟩

/-- `NodeIter(anchor, depth, length)` yields exactly the nodes that direct navigation
    `getter(to_gindex(i, depth))` finds at `i = 0 … length-1`. -/
theorem nodeIter_eq_getAt (anchor : Node) (depth length : Nat) (nodes : List Node)
    (hlen : length ≤ 2 ^ depth)
    (h : ∀ i, i < length → getAt anchor i depth = some (nodes.getD i default))
    (hn : nodes.length = length) :
    nodeIter anchor depth length = some nodes :=
  (nodeIter_eq_some_iff anchor depth length nodes).2 ⟨hlen, hn, h⟩

/-- Converse of `nodeIter_eq_getAt`: if the iterator does not raise, it yielded `length` nodes and
    each is the node direct navigation finds. -/
theorem nodeIter_some_getAt (anchor : Node) (depth length : Nat) (nodes : List Node)
    (h : nodeIter anchor depth length = some nodes) :
    length ≤ 2 ^ depth ∧ nodes.length = length ∧
      ∀ i, i < length → getAt anchor i depth = some (nodes.getD i default) :=
  (nodeIter_eq_some_iff anchor depth length nodes).1 h

/-- function formulation: if `getAt anchor i depth` succeeds with `f i` for every `i < length`, the
    iterator yields exactly `f 0, …, f (length-1)`. -/
theorem nodeIter_eq_map (anchor : Node) (depth length : Nat) (f : Nat → Node)
    (hlen : length ≤ 2 ^ depth)
    (h : ∀ i, i < length → getAt anchor i depth = some (f i)) :
    nodeIter anchor depth length = some ((List.range length).map f) :=
  nodeIter_eq_getAt anchor depth length _ hlen (fun i hi => by rw [h i hi]; simp [hi]) (by simp)

/-- Failure-free corollary: when every bottom position of the depth-`depth` subtree is reachable
    (the tree is full down to `depth`), the iterator never raises for any `length ≤ 2^depth`. -/
theorem nodeIter_full_isSome (anchor : Node) (depth length : Nat) (hlen : length ≤ 2 ^ depth)
    (hfull : ∀ i, i < 2 ^ depth → (getAt anchor i depth).isSome) :
    (nodeIter anchor depth length).isSome := by
  rw [nodeIter_eq_map anchor depth length (fun i => (getAt anchor i depth).getD default) hlen]
  · rfl
  · intro i hi
    obtain ⟨n, hn⟩ := Option.isSome_iff_exists.1 (hfull i (Nat.lt_of_lt_of_le hi hlen))
    rw [hn]
    rfl

/-- The complete tree `subtree_fill_to_depth(bottom, depth)`: the iterator yields `length` copies of
    `bottom`. -/
theorem nodeIter_fillToDepth (bottom : Node) (depth length : Nat) (hlen : length ≤ 2 ^ depth) :
    nodeIter (fillToDepth bottom depth) depth length = some (List.replicate length bottom) := by
  rw [nodeIter_eq_map _ depth length (fun _ => bottom) hlen]
  · congr 1
    apply List.ext_getElem <;> simp
  · intro i hi
    have := getPath_fillToDepth bottom (pbits depth i)
    rwa [pbits_length, ← getAt_of_lt _ (Nat.lt_of_lt_of_le hi hlen)] at this

end Rmk
