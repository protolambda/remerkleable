/-
C18: `getDiffPos` lists the differing pairs strictly left to right (`getDiffPos_sorted`), hence
the positions are distinct and none is a prefix of another; the report is complete
(`getDiffPos_complete`) and minimal (`getDiffPos_ancestors_differ`); together: `mem_getDiffPos_iff`.
C12: omitted container fields take their defaults (`constructPartial`, `containerPartial_repr`,
`containerPartial_root_eq_explicit`; together: `C12.omitted_fields`).
-/
import Rmk.Proofs.ChunkTree
import Rmk.Proofs.ConstructRoot
import Rmk.Proofs.DefaultNode
import Rmk.Proofs.DiffHistory
import Rmk.Proofs.Merkle
import Rmk.Proofs.Merkleize
import Rmk.Proofs.ReprBasics
import Rmk.Proofs.TreeLaws
import Rmk.Proofs.TypeLemmas
namespace Rmk.Leftovers
open Rmk Rmk.Impl Rmk.Spec

theorem leftOf_cons_cons (a b : Bool) (p q : List Bool) :
    leftOf (a :: p) (b :: q) ↔ (a = false ∧ b = true) ∨ (a = b ∧ leftOf p q) :=
  Iff.rfl

theorem not_leftOf_nil_left (q : List Bool) : ¬ leftOf [] q := by
  cases q <;> exact id

theorem not_leftOf_nil_right (p : List Bool) : ¬ leftOf p [] := by
  cases p <;> exact id

theorem leftOf_not_prefix {p q : List Bool} (h : leftOf p q) : ¬ p <+: q ∧ ¬ q <+: p := by
  induction p generalizing q with
  | nil => exact absurd h (not_leftOf_nil_left q)
  | cons a p ih =>
    cases q with
    | nil => exact absurd h (not_leftOf_nil_right _)
    | cons b q =>
      rw [leftOf_cons_cons] at h
      rw [List.cons_prefix_cons, List.cons_prefix_cons]
      rcases h with ⟨rfl, rfl⟩ | ⟨rfl, h⟩
      · simp
      · have := ih h
        exact ⟨fun hh => this.1 hh.2, fun hh => this.2 hh.2⟩

theorem leftOf_ne {p q : List Bool} (h : leftOf p q) : p ≠ q := by
  intro he
  subst he
  exact (leftOf_not_prefix h).1 (List.prefix_refl _)

theorem leftOf_asymm {p q : List Bool} (h : leftOf p q) : ¬ leftOf q p := by
  induction p generalizing q with
  | nil => exact absurd h (not_leftOf_nil_left q)
  | cons a p ih =>
    cases q with
    | nil => exact absurd h (not_leftOf_nil_right _)
    | cons b q =>
      rw [leftOf_cons_cons] at h
      rw [leftOf_cons_cons]
      rcases h with ⟨rfl, rfl⟩ | ⟨rfl, h⟩
      · simp
      · intro hh
        rcases hh with ⟨h1, h2⟩ | ⟨_, hh⟩
        · rw [h1] at h2; cases h2
        · exact ih h hh

theorem pairwise_mem_cases {α} {R : α → α → Prop} {l : List α} (h : l.Pairwise R) :
    ∀ x ∈ l, ∀ y ∈ l, x = y ∨ R x y ∨ R y x := by
  induction l with
  | nil => intro x hx; cases hx
  | cons a l ih =>
    rw [List.pairwise_cons] at h
    intro x hx y hy
    rcases List.mem_cons.1 hx with rfl | hx' <;> rcases List.mem_cons.1 hy with rfl | hy'
    · exact .inl rfl
    · exact .inr (.inl (h.1 y hy'))
    · exact .inr (.inr (h.1 x hx'))
    · exact ih h.2 x hx' y hy'

theorem map_fst_map_cons (c : Bool) (l : List DiffEntry) :
    (l.map (fun d => ((c :: d.1, d.2.1, d.2.2) : DiffEntry))).map (·.1) = (l.map (·.1)).map (c :: ·) := by
  simp [List.map_map, Function.comp_def]

/-- `get_diff` reports the differing pairs strictly from left to right -/
theorem getDiffPos_sorted (H : Hash) (a b : Node) :
    ((getDiffPos H a b).map (·.1)).Pairwise leftOf := by
  refine getDiffPos_induct (P := fun _ _ ds => (ds.map (·.1)).Pairwise leftOf)
    (fun _ _ _ => List.Pairwise.nil) (fun _ _ _ _ => List.pairwise_singleton _ _) ?_ a b
  intro al ar bl br _ ihl ihr
  rw [List.map_append, map_fst_map_cons, map_fst_map_cons, List.pairwise_append]
  refine ⟨?_, ?_, ?_⟩
  · rw [List.pairwise_map]
    exact ihl.imp fun h => Or.inr ⟨rfl, h⟩
  · rw [List.pairwise_map]
    exact ihr.imp fun h => Or.inr ⟨rfl, h⟩
  · intro p hp q hq
    obtain ⟨p', _, rfl⟩ := List.mem_map.1 hp
    obtain ⟨q', _, rfl⟩ := List.mem_map.1 hq
    exact Or.inl ⟨rfl, rfl⟩

/-- …and no reported position is a prefix of another one: two reported entries whose positions are
    comparable are the same entry -/
theorem getDiffPos_prefix_eq (H : Hash) (a b : Node) (d1 d2 : DiffEntry)
    (h1 : d1 ∈ getDiffPos H a b) (h2 : d2 ∈ getDiffPos H a b) (hp : d1.1 <+: d2.1) : d1 = d2 := by
  have hpos : d1.1 = d2.1 := by
    rcases pairwise_mem_cases (getDiffPos_sorted H a b) d1.1 (List.mem_map.2 ⟨d1, h1, rfl⟩)
      d2.1 (List.mem_map.2 ⟨d2, h2, rfl⟩) with h | h | h
    · exact h
    · exact absurd hp (leftOf_not_prefix h).1
    · exact absurd hp (leftOf_not_prefix h).2
  obtain ⟨p1, x1, y1⟩ := d1
  obtain ⟨p2, x2, y2⟩ := d2
  simp only at hpos
  subst hpos
  obtain ⟨ha1, hb1, _, _⟩ := getDiffPos_sound H a b p1 x1 y1 h1
  obtain ⟨ha2, hb2, _, _⟩ := getDiffPos_sound H a b p1 x2 y2 h2
  rw [ha1] at ha2
  rw [hb1] at hb2
  cases ha2
  cases hb2
  rfl

/-- Completeness.  If the two trees have nodes `x`, `y` at the path `p`, and the roots of the two
    trees differ at `p` and at every prefix of `p` (hypothesis `hd`; for a collision-free hash it is
    enough that `x` and `y` differ, see `getDiffPos_complete_inj`), then some reported position is an
    extension of `p` — and it is `p` itself, reporting exactly `(x, y)`, when `x` or `y` is a leaf.
    (That all proper prefixes of `p` are pairs in both trees is implied by `ha`, `hb`.) -/
theorem getDiffPos_complete (H : Hash) (a b : Node) (p : List Bool) (x y : Node)
    (ha : getPath a p = some x) (hb : getPath b p = some y)
    (hd : ∀ q, q <+: p → ∀ u v, getPath a q = some u → getPath b q = some v → u.root H ≠ v.root H) :
    ∃ q x' y', (p ++ q, x', y') ∈ getDiffPos H a b ∧
      ((x.isLeaf = true ∨ y.isLeaf = true) → q = [] ∧ x' = x ∧ y' = y) := by
  induction p generalizing a b with
  | nil =>
    obtain rfl : a = x := Option.some.inj ((getPath_nil a).symm.trans ha)
    obtain rfl : b = y := Option.some.inj ((getPath_nil b).symm.trans hb)
    have hne : a.root H ≠ b.root H := hd [] (List.prefix_refl _) a b (getPath_nil a) (getPath_nil b)
    by_cases hl : a.isLeaf = true ∨ b.isLeaf = true
    · refine ⟨[], a, b, ?_, fun _ => ⟨rfl, rfl, rfl⟩⟩
      rw [getDiffPos_of_isLeaf H a b hl hne]
      exact List.mem_singleton_self _
    · obtain ⟨⟨q, x', y'⟩, hm⟩ := List.exists_mem_of_ne_nil _ (getDiffPos_nonempty_of_ne H a b hne)
      exact ⟨q, x', y', hm, fun h => absurd h hl⟩
  | cons c cs ih =>
    cases a with
    | leaf _ => cases ha
    | pair al ar =>
      cases b with
      | leaf _ => cases hb
      | pair bl br =>
        rw [getDiffPos_pair_of_ne H _ _ _ _
          (hd [] List.nil_prefix _ _ (getPath_nil _) (getPath_nil _))]
        cases c with
        | false =>
          obtain ⟨q, x', y', hm, hl⟩ := ih al bl ha hb fun q hq u v hu hv =>
            hd (false :: q) (List.cons_prefix_cons.2 ⟨rfl, hq⟩) u v hu hv
          exact ⟨q, x', y', List.mem_append_left _ (List.mem_map.2 ⟨(cs ++ q, x', y'), hm, rfl⟩), hl⟩
        | true =>
          obtain ⟨q, x', y', hm, hl⟩ := ih ar br ha hb fun q hq u v hu hv =>
            hd (true :: q) (List.cons_prefix_cons.2 ⟨rfl, hq⟩) u v hu hv
          exact ⟨q, x', y', List.mem_append_right _ (List.mem_map.2 ⟨(cs ++ q, x', y'), hm, rfl⟩), hl⟩

/-- with a collision-free hash, a difference at `p` shows at all prefixes of `p` -/
theorem prefixes_differ_of_inj (H : Hash) (hH : Injective2 H) (a b : Node) (p : List Bool) (x y : Node)
    (ha : getPath a p = some x) (hb : getPath b p = some y) (hne : x.root H ≠ y.root H) :
    ∀ q, q <+: p → ∀ u v, getPath a q = some u → getPath b q = some v → u.root H ≠ v.root H := by
  intro q hq u v hu hv heq
  obtain ⟨r, rfl⟩ := hq
  rw [getPath_append, hu] at ha
  rw [getPath_append, hv] at hb
  exact hne (root_getPath_of_root_eq H hH r u v x y heq ha hb)

/-- Completeness for a collision-free hash: every position where the trees differ is covered by a
    reported position (and reported itself, with its two nodes, when one of the nodes is a leaf) -/
theorem getDiffPos_complete_inj (H : Hash) (hH : Injective2 H) (a b : Node) (p : List Bool) (x y : Node)
    (ha : getPath a p = some x) (hb : getPath b p = some y) (hne : x.root H ≠ y.root H) :
    ∃ q x' y', (p ++ q, x', y') ∈ getDiffPos H a b ∧
      ((x.isLeaf = true ∨ y.isLeaf = true) → q = [] ∧ x' = x ∧ y' = y) :=
  getDiffPos_complete H a b p x y ha hb (prefixes_differ_of_inj H hH a b p x y ha hb hne)

/-- Minimality.  At every prefix `q` of a reported position both trees have a node and the roots of
    these nodes differ; at every PROPER prefix both nodes are pairs (so only deepest differing
    pairs are reported). -/
theorem getDiffPos_ancestors_differ (H : Hash) (a b : Node) (p : List Bool) (x y : Node)
    (hm : (p, x, y) ∈ getDiffPos H a b) (q : List Bool) (hq : q <+: p) :
    ∃ u v, getPath a q = some u ∧ getPath b q = some v ∧ u.root H ≠ v.root H ∧
      (q ≠ p → u.isLeaf = false ∧ v.isLeaf = false) := by
  revert p q
  refine getDiffPos_induct (P := fun a b ds => ∀ p, (p, x, y) ∈ ds → ∀ q, q <+: p →
    ∃ u v, getPath a q = some u ∧ getPath b q = some v ∧ u.root H ≠ v.root H ∧
      (q ≠ p → u.isLeaf = false ∧ v.isLeaf = false)) ?_ ?_ ?_ a b
  · intro a b _ p hm
    cases hm
  · intro a b _ hne p hm q hq
    cases List.mem_singleton.1 hm
    cases List.prefix_nil.1 hq
    exact ⟨_, _, getPath_nil _, getPath_nil _, hne, fun hh => absurd rfl hh⟩
  · intro al ar bl br hne ihl ihr p hm q hq
    cases q with
    | nil => exact ⟨_, _, getPath_nil _, getPath_nil _, hne, fun _ => ⟨rfl, rfl⟩⟩
    | cons c q' =>
      -- the entry comes from one side; its position, and so `q`, starts with that side's bit
      rw [List.mem_append, List.mem_map, List.mem_map] at hm
      rcases hm with ⟨⟨p', x', y'⟩, hp', heq⟩ | ⟨⟨p', x', y'⟩, hp', heq⟩
      · cases heq
        obtain ⟨rfl, hq'⟩ := List.cons_prefix_cons.1 hq
        obtain ⟨u, v, hu, hv, hne, hl⟩ := ihl p' hp' q' hq'
        exact ⟨u, v, hu, hv, hne, fun hh => hl fun e => hh (by rw [e])⟩
      · cases heq
        obtain ⟨rfl, hq'⟩ := List.cons_prefix_cons.1 hq
        obtain ⟨u, v, hu, hv, hne, hl⟩ := ihr p' hp' q' hq'
        exact ⟨u, v, hu, hv, hne, fun hh => hl fun e => hh (by rw [e])⟩

/-- Exact characterisation of the report: `(p, x, y)` is reported iff `x`, `y` are the nodes at `p`,
    one of them is a leaf, and the roots differ at `p` and at all its prefixes. -/
theorem mem_getDiffPos_iff (H : Hash) (a b : Node) (p : List Bool) (x y : Node) :
    (p, x, y) ∈ getDiffPos H a b ↔
      getPath a p = some x ∧ getPath b p = some y ∧ (x.isLeaf = true ∨ y.isLeaf = true) ∧
      ∀ q, q <+: p → ∀ u v, getPath a q = some u → getPath b q = some v → u.root H ≠ v.root H := by
  constructor
  · intro hm
    obtain ⟨ha, hb, _, hl⟩ := getDiffPos_sound H a b p x y hm
    refine ⟨ha, hb, hl, ?_⟩
    intro q hq u v hu hv
    obtain ⟨u', v', hu', hv', hne, _⟩ := getDiffPos_ancestors_differ H a b p x y hm q hq
    rw [hu] at hu'; rw [hv] at hv'
    cases hu'; cases hv'
    exact hne
  · rintro ⟨ha, hb, hl, hd⟩
    obtain ⟨q, x', y', hm, hq⟩ := getDiffPos_complete H a b p x y ha hb hd
    obtain ⟨rfl, rfl, rfl⟩ := hq hl
    simpa using hm

/-- for a collision-free hash: `(p, x, y)` is reported iff `x`, `y` are the nodes at `p`, they
    differ, and one of them is a leaf -/
theorem mem_getDiffPos_iff_inj (H : Hash) (hH : Injective2 H) (a b : Node) (p : List Bool) (x y : Node) :
    (p, x, y) ∈ getDiffPos H a b ↔
      getPath a p = some x ∧ getPath b p = some y ∧ (x.isLeaf = true ∨ y.isLeaf = true) ∧
      x.root H ≠ y.root H := by
  rw [mem_getDiffPos_iff]
  constructor
  · rintro ⟨ha, hb, hl, hd⟩
    exact ⟨ha, hb, hl, hd p (List.prefix_refl _) x y ha hb⟩
  · rintro ⟨ha, hb, hl, hne⟩
    exact ⟨ha, hb, hl, prefixes_differ_of_inj H hH a b p x y ha hb hne⟩

/-! ## C12: omitted container fields take their defaults

`Container(**kwargs)` uses `ftyp.default_node()` for every omitted field and the node of the coerced
value for every given one, then `subtree_fill_to_contents(nodes, tree_depth())`. -/

def fieldNode (H : Hash) (t : Ty) : Option Val → Option Node
  | some v => Impl.construct H t v
  | none => Impl.defaultNode H t

/-- field nodes of `Container(**kwargs)`: `none` entries are the omitted fields -/
def constructPartial (H : Hash) : List Ty → List (Option Val) → Option (List Node)
  | [], [] => some []
  | t :: ts, ov :: ovs =>
    match fieldNode H t ov, constructPartial H ts ovs with
    | some n, some ns => some (n :: ns)
    | _, _ => none
  | _, _ => none

/-- the backing tree of `Container(**kwargs)` -/
def containerPartial (H : Hash) (fs : List Ty) (ovs : List (Option Val)) : Option Node :=
  match constructPartial H fs ovs with
  | none => none
  | some ns => fillToContents H ns (getDepth fs.length)

/-- the value denoted by a partial field assignment: omitted fields are the zero values -/
def fillDefaults : List Ty → List (Option Val) → List Val
  | t :: ts, ov :: ovs => ov.getD (zeroVal t) :: fillDefaults ts ovs
  | _, _ => []

/-- the given fields are well-typed (and there is one entry per field) -/
def WTpartial : List Ty → List (Option Val) → Prop
  | [], [] => True
  | t :: ts, ov :: ovs => (∀ v, ov = some v → WT t v = true) ∧ WTpartial ts ovs
  | _, _ => False

theorem fieldNode_repr (H : Hash) (t : Ty) (ov : Option Val) (n : Node) (hwf : t.wf = true)
    (h : fieldNode H t ov = some n) : Impl.Repr H t (ov.getD (zeroVal t)) n := by
  cases ov with
  | none => exact ReprBasics.default_repr H t n hwf h
  | some v => exact ReprBasics.construct_repr H t v n hwf h

theorem constructPartial_reprFields (H : Hash) (fs : List Ty) (ovs : List (Option Val))
    (ns : List Node) (hwf : Ty.wfList fs = true) (h : constructPartial H fs ovs = some ns) :
    ReprFields H fs (fillDefaults fs ovs) ns := by
  fun_induction constructPartial H fs ovs generalizing ns with
  | case1 =>
    cases h
    trivial
  | case2 t ts ov ovs n ns' h2 h1 ih =>
    cases h
    have hwf := Ty.wfList_cons hwf
    exact ⟨fieldNode_repr H t ov n hwf.1 h1, ih ns' hwf.2 h2⟩
  | case3 => cases h
  | case4 => cases h

/-- C12 (omitted fields): the tree of `Container(**kwargs)` represents the value in which the
    omitted fields are the zero values -/
theorem containerPartial_repr (H : Hash) (fs : List Ty) (ovs : List (Option Val)) (n : Node)
    (hwf : Ty.wfList fs = true) (h : containerPartial H fs ovs = some n) :
    Impl.Repr H (.container fs) (.seq (fillDefaults fs ovs)) n := by
  unfold containerPartial at h
  cases hns : constructPartial H fs ovs with
  | none => simp [hns] at h
  | some ns =>
    simp only [hns] at h
    unfold Impl.Repr
    exact ⟨ns, constructPartial_reprFields H fs ovs ns hwf hns, ChunkTreeLemmas.ct_fill h⟩

/-- …so its root is the hash-tree-root of that value -/
theorem containerPartial_root (H : Hash) (fs : List Ty) (ovs : List (Option Val)) (n : Node)
    (hwf : (Ty.container fs).wf = true) (h : containerPartial H fs ovs = some n) :
    n.root H = Spec.htr H (.container fs) (.seq (fillDefaults fs ovs)) := by
  have hw := (Ty.wf_container hwf).2
  exact ReprBasics.repr_root H _ _ n hwf (containerPartial_repr H fs ovs n hw h)

/-- …and it has the same root as the fully explicit construction -/
theorem containerPartial_root_eq_explicit (H : Hash) (fs : List Ty) (ovs : List (Option Val))
    (n m : Node) (hwf : (Ty.container fs).wf = true) (h : containerPartial H fs ovs = some n)
    (hm : Impl.construct H (.container fs) (.seq (fillDefaults fs ovs)) = some m) :
    n.root H = m.root H := by
  have hw := (Ty.wf_container hwf).2
  exact ReprBasics.repr_unique_root H _ _ n m hwf (containerPartial_repr H fs ovs n hw h)
    (ReprBasics.construct_repr H _ _ m hwf hm)

theorem constructPartial_isSome (H : Hash) (fs : List Ty) (ovs : List (Option Val))
    (hwf : Ty.wfList fs = true) (hwt : WTpartial fs ovs) :
    (constructPartial H fs ovs).isSome = true := by
  fun_induction WTpartial fs ovs with
  | case1 => rfl
  | case2 t ts ov ovs ih =>
    have hwf := Ty.wfList_cons hwf
    have h1 : (fieldNode H t ov).isSome = true := by
      cases ov with
      | none => exact DefaultNode.default_isSome H t hwf.1
      | some v => exact ConstructRoot.construct_isSome H t v hwf.1 (hwt.1 v rfl)
    obtain ⟨n, hn⟩ := Option.isSome_iff_exists.1 h1
    obtain ⟨ns, hns⟩ := Option.isSome_iff_exists.1 (ih hwf.2 hwt.2)
    rw [constructPartial, hn, hns]
    rfl
  | case3 => exact hwt.elim

theorem containerPartial_isSome (H : Hash) (fs : List Ty) (ovs : List (Option Val))
    (hwf : Ty.wfList fs = true) (hwt : WTpartial fs ovs) :
    (containerPartial H fs ovs).isSome = true := by
  obtain ⟨ns, hns⟩ := Option.isSome_iff_exists.1 (constructPartial_isSome H fs ovs hwf hwt)
  unfold containerPartial
  simp only [hns]
  rw [fillToContents_isSome_iff,
    (ReprBasics.reprFields_length (constructPartial_reprFields H fs ovs ns hwf hns)).2]
  exact two_pow_getDepth _

theorem fillDefaults_wt (fs : List Ty) (ovs : List (Option Val)) (hwf : Ty.wfList fs = true)
    (hwt : WTpartial fs ovs) : WTs fs (fillDefaults fs ovs) = true := by
  fun_induction WTpartial fs ovs with
  | case1 => rfl
  | case2 t ts ov ovs ih =>
    have hwf := Ty.wfList_cons hwf
    rw [fillDefaults, WTs, ih hwf.2 hwt.2, Bool.and_true]
    cases ov with
    | none => exact DefaultNode.zeroVal_wt t hwf.1
    | some v => exact hwt.1 v rfl
  | case3 => exact hwt.elim

/-- nothing omitted: `Container(**kwargs)` is the ordinary constructor -/
theorem constructPartial_all_some (H : Hash) (fs : List Ty) (vs : List Val) :
    constructPartial H fs (vs.map some) = Impl.constructFields H fs vs := by
  induction fs generalizing vs with
  | nil => cases vs <;> rfl
  | cons t ts ih =>
    cases vs with
    | nil => rfl
    | cons v vs =>
      rw [List.map_cons, constructPartial, Impl.constructFields, ih vs]
      rfl

theorem containerPartial_all_some (H : Hash) (fs : List Ty) (vs : List Val) :
    containerPartial H fs (vs.map some) = Impl.construct H (.container fs) (.seq vs) := by
  simp only [containerPartial, constructPartial_all_some, Impl.construct]
  cases Impl.constructFields H fs vs <;> rfl

/-- everything omitted: `Container()` is the default node -/
theorem constructPartial_all_none (H : Hash) (fs : List Ty) :
    constructPartial H fs (fs.map fun _ => none) = Impl.defaultNodes H fs := by
  induction fs with
  | nil => rfl
  | cons t ts ih =>
    rw [List.map_cons, constructPartial, Impl.defaultNodes, ih]
    rfl

theorem containerPartial_all_none (H : Hash) (fs : List Ty) :
    containerPartial H fs (fs.map fun _ => none) = Impl.defaultNode H (.container fs) := by
  simp only [containerPartial, constructPartial_all_none, Impl.defaultNode]
  cases Impl.defaultNodes H fs <;> rfl

theorem fillDefaults_all_none (fs : List Ty) :
    fillDefaults fs (fs.map fun _ => none) = zeroVals fs := by
  induction fs with
  | nil => simp [fillDefaults, zeroVals]
  | cons t ts ih => simp [fillDefaults, zeroVals, ih]

theorem fillDefaults_all_some (fs : List Ty) (vs : List Val) (h : vs.length = fs.length) :
    fillDefaults fs (vs.map some) = vs := by
  induction fs generalizing vs with
  | nil => cases vs <;> simp_all [fillDefaults]
  | cons t ts ih =>
    cases vs with
    | nil => simp at h
    | cons v vs => simp [fillDefaults, ih vs (by simpa using h)]

/-! Non-vacuity: the middle field omitted -/
private def H0 : Hash := fun a b => a ++ b
private def t0 : List Ty := [.uint 1, .vector (.uint 2) 3, .bool]
example : (Ty.container t0).wf = true ∧ WTpartial t0 [some (.num 7), none, some (.num 1)] ∧
    fillDefaults t0 [some (.num 7), none, some (.num 1)] =
      [.num 7, .seq [.num 0, .num 0, .num 0], .num 1] ∧
    (containerPartial H0 t0 [some (.num 7), none, some (.num 1)]).isSome = true := by
  refine ⟨by decide, ⟨?_, ?_, ?_, trivial⟩, rfl, by decide⟩
  · rintro _ ⟨⟩
    decide
  · rintro _ ⟨⟩
  · rintro _ ⟨⟩
    decide

end Rmk.Leftovers
