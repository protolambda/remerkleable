/-
The trees that `Bitlist.deserialize` / `Bitvector.deserialize` build directly from the raw input chunks
(`Impl.deserBitlistTree`, `Impl.deserBitvectorTree`) are the constructor trees of the decoded value:
`bitlist_tree_via`, `bitvector_tree_via` say tree builder = value decoder followed by the constructor, on every
input. Idea: both sides make the same checks in the same order (`ite_none_congr`), and where they pass, the chunk
list cut from the input is the packing of the decoded bits (`bitlist_chunks`, `bitvec_canon`).
-/
import Rmk.Impl.DeserTree
import Rmk.Proofs.BytesLemmas
import Rmk.Proofs.ConstructRoot
import Rmk.Proofs.DecodeSound
import Rmk.Proofs.Gindex
import Rmk.Proofs.Packing
import Rmk.Proofs.ReprBasics
import Rmk.Proofs.Sizes
import Rmk.Proofs.TreeLaws
namespace Rmk.DeserTreeLaws
open Rmk Rmk.Impl Rmk.Spec Rmk.DecodeSound

/-- what the `while scope > 32` loop yields: full 32-byte chunks, and a last part of 1..32 bytes -/
theorem splitChunks_spec : ∀ (fuel : Nat) (bs : List UInt8), bs.length ≤ fuel →
    ∃ full last, splitChunks fuel bs = (full, last) ∧ (∀ g ∈ full, g.length = 32) ∧
      full.flatten ++ last = bs ∧ last.length ≤ 32 ∧ (bs ≠ [] → last ≠ []) := by
  intro fuel
  induction fuel with
  | zero =>
    intro bs h
    have : bs = [] := List.eq_nil_of_length_eq_zero (Nat.le_zero.1 h)
    subst this
    exact ⟨[], [], rfl, nofun, rfl, Nat.zero_le _, id⟩
  | succ fuel ih =>
    intro bs h
    by_cases hc : bs.length > 32
    · have hd : (bs.drop 32).length ≤ fuel := by
        rw [List.length_drop]
        exact Nat.sub_le_of_le_add (Nat.le_trans h (Nat.add_le_add_left (by decide) fuel))
      obtain ⟨full, last, e, h1, h2, h3, h4⟩ := ih (bs.drop 32) hd
      refine ⟨bs.take 32 :: full, last, by rw [splitChunks, if_pos hc, e], ?_, ?_, h3, fun _ => h4 ?_⟩
      · intro g hg
        rcases List.mem_cons.mp hg with rfl | hg
        · exact List.length_take_of_le (Nat.le_of_lt hc)
        · exact h1 g hg
      · rw [List.flatten_cons, List.append_assoc, h2, List.take_append_drop]
      · exact List.ne_nil_of_length_pos (by rw [List.length_drop]; exact Nat.sub_pos_of_lt hc)
    · exact ⟨[], bs, by rw [splitChunks, if_neg hc], nofun, rfl, Nat.le_of_not_gt hc, id⟩

theorem getLastD_append_of_ne_nil (a b : List UInt8) (h : b ≠ []) :
    (a ++ b).getLastD 0 = b.getLastD 0 := by
  rw [bytes_split_last b h, ← List.append_assoc, List.getLastD_concat, List.getLastD_concat]

theorem pack_full_append (full : List (List UInt8)) (last : List UInt8)
    (hf : ∀ g ∈ full, g.length = 32) (h32 : last.length ≤ 32) :
    (groups 32 (full.flatten ++ last)).map (fun g => g ++ zeros (32 - g.length))
      = full ++ (if last = [] then [] else [last ++ zeros (32 - last.length)]) := by
  induction full with
  | nil =>
    by_cases hl : last = []
    · subst hl; simp
    · rw [if_neg hl]
      exact congrArg (List.map _) (groups_single (List.length_pos_iff.mpr hl) h32)
  | cons g full ih =>
    have hg := hf g List.mem_cons_self
    rw [List.flatten_cons, List.append_assoc, groups_append_of_length_eq (by decide) g _ hg, List.map_cons,
      ih fun g' hg' => hf g' (List.mem_cons_of_mem _ hg'), hg, Nat.sub_self]
    exact congrArg (· :: _) (List.append_nil g)

/-- clearing the highest set bit: bit `i` of `n` survives below `log2 n`, is set and cleared at `log2 n`, and is
    unset above it -/
theorem xor_top_bit (n : Nat) (h0 : n ≠ 0) :
    n ^^^ (1 <<< (bitLength n - 1)) = n % 2 ^ (bitLength n - 1) := by
  rw [bitLength_pos h0, Nat.add_sub_cancel, Nat.one_shiftLeft]
  apply Nat.eq_of_testBit_eq
  intro i
  rw [Nat.testBit_xor, Nat.testBit_two_pow, Nat.testBit_mod_two_pow]
  rcases Nat.lt_trichotomy i n.log2 with h | rfl | h
  · simp [h, Nat.ne_of_gt h]
  · simp [Nat.testBit_log2 h0]
  · have h2 : n.testBit i = false :=
      Nat.testBit_lt_two_pow (Nat.lt_of_lt_of_le Nat.lt_log2_self (Nat.pow_le_pow_right (by decide) h))
    simp [h2, Nat.ne_of_lt h, Nat.lt_asymm h]

theorem bitlen_mod (F L i : Nat) (hL : L < 32) (hi : i < 8) :
    ((32 * F + L) * 8 + i) % 256 = L * 8 + i := by
  have h : L * 8 + i < 256 :=
    Nat.lt_of_lt_of_le (Nat.add_lt_add_left hi _) (Nat.succ_mul L 8 ▸ Nat.mul_le_mul_right 8 hL)
  rw [Nat.add_mul, Nat.mul_right_comm, Nat.add_assoc, Nat.mul_add_mod, Nat.mod_eq_of_lt h]

theorem pad_snoc_zero (lp : List UInt8) (n : Nat) (h : lp.length < n) :
    (lp ++ [0]) ++ zeros (n - (lp ++ [0]).length) = lp ++ zeros (n - lp.length) := by
  rw [List.append_assoc, List.singleton_append, ← zeros_succ, List.length_append, List.length_singleton,
    ← Nat.sub_sub, Nat.sub_add_cancel (Nat.sub_pos_of_lt h)]

/-- the chunk list `Bitlist.deserialize` builds (full chunks of the input; the last part with
    the delimiting bit `i` of the last byte cleared, zero padded; no last chunk when the bit length is a multiple
    of 256) is the packing of the decoded bits -/
theorem bitlist_chunks (full : List (List UInt8)) (lp : List UInt8) (lastB : UInt8)
    (hf : ∀ g ∈ full, g.length = 32) (hlp : lp.length < 32) (i : Nat) (hi : i < 8) :
    packBits ((bytesToBits (full.flatten ++ lp ++ [lastB])).take ((full.flatten ++ lp).length * 8 + i))
      = full ++ (if ((full.flatten ++ lp).length * 8 + i) % 256 != 0
          then [(lp ++ [UInt8.ofNat (lastB.toNat % 2 ^ i)]) ++
                zeros (32 - (lp ++ [UInt8.ofNat (lastB.toNat % 2 ^ i)]).length)]
          else []) := by
  rw [packBits, bytesToBits_concat_take _ lastB (Nat.le_of_lt hi), List.length_append,
    Sizes.flatten_length_const 32 full hf, bitlen_mod _ _ i hlp hi]
  by_cases h0 : i = 0
  · -- the delimiter was the lowest bit of the last byte: the decoded bits end before that byte
    subst h0
    rw [natToBits_zero_len, List.append_nil, bitsToBytes_bytesToBits, pack_full_append full lp hf (Nat.le_of_lt hlp)]
    congr 1
    by_cases hl : lp = []
    · subst hl; rfl
    · have hne : (lp.length * 8 + 0 != 0) = true :=
        bne_iff_ne.2 (Nat.mul_ne_zero (mt List.eq_nil_of_length_eq_zero hl) (by decide))
      rw [if_neg hl, if_pos hne, Nat.pow_zero, Nat.mod_one]
      exact congrArg (fun c => [c]) (pad_snoc_zero lp 32 hlp).symm
  · have hne : (lp.length * 8 + i != 0) = true :=
      bne_iff_ne.2 fun h => h0 (Nat.eq_zero_of_add_eq_zero_left h)
    rw [bitsToBytes_bytes_append_bits _ _ (Nat.pos_of_ne_zero h0) (Nat.le_of_lt hi), List.append_assoc,
      pack_full_append full _ hf (by rw [List.length_append]; exact hlp),
      if_neg (List.append_ne_nil_of_right_ne_nil _ (List.cons_ne_nil _ _)), if_pos hne]

theorem ite_none_congr {α} {c : Prop} [Decidable c] {x y : Option α} (h : ¬c → x = y) :
    (if c then none else x) = (if c then none else y) := by
  split
  · rfl
  · exact h ‹_›

/-- `Bitlist.__new__` without the special case of the empty list -/
theorem construct_bitlist_eq (H : Hash) (lim : Nat) (bits : List Bool) (h : ¬ bits.length > lim) :
    Impl.construct H (.bitlist lim) (.bits bits) =
      (fillToContents H ((packBits bits).map .leaf) (getDepth ((lim + 255) / 256))).map
        fun c => mixInNode c bits.length := by
  simp only [construct, h, if_false]
  by_cases h0 : bits.length = 0
  · have : bits = [] := List.eq_nil_of_length_eq_zero h0
    subst this
    have hp : packBits [] = [] := rfl
    simp only [List.length_nil, if_true, defaultNode, hp, List.map_nil, fillToContents_nil, Option.map_some,
      mixInNode, lenNode, ConstructRoot.chunkOfLE_32, toLE_zero, zeroNode, zeroHash, zeroChunk]
  · simp only [h0, if_false]

def viaConstruct (H : Hash) (t : Ty) (s : List UInt8) (scope : Nat) : Option Node :=
  match Impl.deser t s scope with
  | some (v, _) => Impl.construct H t v
  | none => none

theorem viaConstruct_eq_bind (H : Hash) (t : Ty) (s : List UInt8) (scope : Nat) :
    viaConstruct H t s scope = (Impl.deser t s scope).bind fun p => Impl.construct H t p.1 := by
  unfold viaConstruct
  cases Impl.deser t s scope <;> rfl

theorem bind_ite_none {α β} {c : Prop} [Decidable c] (x : Option α) (f : α → Option β) :
    (if c then none else x).bind f = if c then none else x.bind f := by
  split <;> rfl

/-- The tree builder and the value decoder make the same checks in the same order, and where they pass the
    chunk list is the packing of the decoded bits, which is what the constructor fills the tree from. -/
theorem bitlist_tree_via (H : Hash) (lim : Nat) (s : List UInt8) (scope : Nat)
    (hl : (s.take scope).length = scope) :
    Impl.deserBitlistTree H lim (s.take scope) = viaConstruct H (.bitlist lim) s scope := by
  rw [viaConstruct_eq_bind, deser]
  simp only [bind_ite_none, hl, bne_self_eq_false, Bool.false_eq_true, if_false, Option.bind_some]
  generalize s.take scope = bs at hl ⊢
  subst hl
  unfold deserBitlistTree
  refine ite_none_congr fun h1 => ite_none_congr fun _ => ?_
  have hne : bs ≠ [] := fun h => h1 (by rw [h]; exact Nat.zero_lt_one)
  obtain ⟨full, lastPart, hsp, hf, rfl, h32, hlne⟩ := splitChunks_spec bs.length bs (Nat.le_refl _)
  obtain ⟨lp, lastB, rfl⟩ : ∃ lp lastB, lastPart = lp ++ [lastB] := ⟨_, _, bytes_split_last _ (hlne hne)⟩
  rw [hsp]
  dsimp only
  simp only [List.dropLast_concat, List.getLastD_concat, ← List.append_assoc, List.length_append (bs := [lastB]),
    List.length_singleton, Nat.add_sub_cancel]
  refine ite_none_congr fun hlast => ite_none_congr fun h4 => ?_
  have hi : bitLength lastB.toNat - 1 < 8 :=
    Nat.lt_of_lt_of_le (Nat.sub_lt (bitLength_pos hlast ▸ Nat.succ_pos _) Nat.one_pos) (bitLength_le_eight lastB)
  have hlen := List.length_take_of_le (l := bytesToBits (full.flatten ++ lp ++ [lastB]))
    (i := (full.flatten ++ lp).length * 8 + (bitLength lastB.toNat - 1)) (by
      rw [bytesToBits_length, List.length_append (bs := [lastB]), List.length_singleton, Nat.mul_comm 8, Nat.succ_mul]
      exact Nat.add_le_add_left (Nat.le_of_lt hi) _)
  rw [construct_bitlist_eq H lim _ (by rw [hlen]; exact h4), hlen, xor_top_bit _ hlast,
    bitlist_chunks full lp lastB hf (by rw [List.length_append] at h32; exact h32) _ hi]

theorem bitvector_tree_via (H : Hash) (len : Nat) (s : List UInt8) (scope : Nat)
    (hl : (s.take scope).length = scope) :
    Impl.deserBitvectorTree H len (s.take scope) = viaConstruct H (.bitvector len) s scope := by
  rw [viaConstruct_eq_bind, deser]
  simp only [bind_ite_none, hl, bne_self_eq_false, Bool.false_or, decide_eq_true_eq, Option.bind_some]
  generalize s.take scope = bs at hl ⊢
  subst hl
  unfold deserBitvectorTree
  refine ite_none_congr fun h1 => ite_none_congr fun h2 => ?_
  have hne : bs ≠ [] := fun h => h2 (by rw [h]; rfl)
  have hlen : bs.length = (len + 7) / 8 := Decidable.of_not_not (mt bne_iff_ne.2 h1)
  obtain ⟨full, lastPart, hsp, hf, rfl, h32, hlne⟩ := splitChunks_spec bs.length bs (Nat.le_refl _)
  rw [hsp]
  dsimp only
  rw [← getLastD_append_of_ne_nil full.flatten lastPart (hlne hne)]
  refine ite_none_congr fun hpad => ?_
  rw [construct, List.length_take_of_le (by rw [bytesToBits_length, hlen]; exact le_eight_mul_cdiv len), bne_self_eq_false,
    if_neg Bool.false_ne_true, packBits, bitvec_canon _ len hne hlen.symm (Nat.le_of_not_gt hpad),
    pack_full_append full lastPart hf h32, if_neg (hlne hne)]

theorem deser_bitlist_length {lim : Nat} {s : List UInt8} {scope : Nat} {p : Val × List UInt8}
    (h : Impl.deser (.bitlist lim) s scope = some p) : (s.take scope).length = scope := by
  unfold deser at h; simp only [Option.ite_none_left_eq_some] at h
  exact Decidable.of_not_not (mt bne_iff_ne.2 h.2.2.1)

theorem deser_bitvector_length {len : Nat} {s : List UInt8} {scope : Nat} {p : Val × List UInt8}
    (h : Impl.deser (.bitvector len) s scope = some p) : (s.take scope).length = scope := by
  unfold deser at h; simp only [Option.ite_none_left_eq_some] at h
  exact Decidable.of_not_not fun hne => h.2.1 (by rw [bne_iff_ne.2 hne]; rfl)

theorem le_of_take_length {s : List UInt8} {scope : Nat} (hl : (s.take scope).length = scope) :
    scope ≤ s.length :=
  Nat.le_trans (Nat.le_of_eq hl.symm) (List.length_take_le' scope s)

theorem viaConstruct_isSome (H : Hash) (t : Ty) (s : List UInt8) (scope : Nat) (hwf : t.wf = true)
    (hs : scope ≤ s.length) : (viaConstruct H t s scope).isSome = (Impl.deser t s scope).isSome := by
  unfold viaConstruct
  cases h : Impl.deser t s scope with
  | none => rfl
  | some p =>
    obtain ⟨v, rest⟩ := p
    exact ConstructRoot.construct_isSome H t v hwf (sound_all t s scope v rest hs h).1

/-- the tree `Bitlist.deserialize` builds from the raw chunks is the constructor tree of the decoded value -/
theorem bitlist_tree (H : Hash) (lim : Nat) (s : List UInt8) (scope : Nat) (bits : List Bool)
    (rest : List UInt8) :
    Impl.deser (.bitlist lim) s scope = some (.bits bits, rest) →
    Impl.deserBitlistTree H lim (s.take scope) = Impl.construct H (.bitlist lim) (.bits bits) := by
  intro h
  rw [bitlist_tree_via H lim s scope (deser_bitlist_length h), viaConstruct, h]

/-- the tree builder rejects what the value decoder rejects -/
theorem bitlist_tree_none (H : Hash) (lim : Nat) (s : List UInt8) (scope : Nat) :
    (s.take scope).length = scope → Impl.deser (.bitlist lim) s scope = none →
    Impl.deserBitlistTree H lim (s.take scope) = none := by
  intro hl h
  rw [bitlist_tree_via H lim s scope hl, viaConstruct, h]

/-- the tree builder accepts exactly what the value decoder accepts -/
theorem bitlist_tree_isSome_iff (H : Hash) (lim : Nat) (s : List UInt8) (scope : Nat)
    (hl : (s.take scope).length = scope) :
    (Impl.deserBitlistTree H lim (s.take scope)).isSome = (Impl.deser (.bitlist lim) s scope).isSome := by
  rw [bitlist_tree_via H lim s scope hl, viaConstruct_isSome H _ s scope rfl (le_of_take_length hl)]

/-- the tree `Bitvector.deserialize` builds from the raw chunks is the constructor tree of the decoded value -/
theorem bitvector_tree (H : Hash) (len : Nat) (s : List UInt8) (scope : Nat) (bits : List Bool)
    (rest : List UInt8) :
    Impl.deser (.bitvector len) s scope = some (.bits bits, rest) →
    Impl.deserBitvectorTree H len (s.take scope) = Impl.construct H (.bitvector len) (.bits bits) := by
  intro h
  rw [bitvector_tree_via H len s scope (deser_bitvector_length h), viaConstruct, h]

theorem bitvector_tree_none (H : Hash) (len : Nat) (s : List UInt8) (scope : Nat) :
    (s.take scope).length = scope → Impl.deser (.bitvector len) s scope = none →
    Impl.deserBitvectorTree H len (s.take scope) = none := by
  intro hl h
  rw [bitvector_tree_via H len s scope hl, viaConstruct, h]

theorem decoded_bitlist_root (H : Hash) (lim : Nat) (s : List UInt8) (scope : Nat) (bits : List Bool)
    (rest : List UInt8) (hwf : (Ty.bitlist lim).wf = true)
    (h : Impl.deser (.bitlist lim) s scope = some (.bits bits, rest)) :
    WT (.bitlist lim) (.bits bits) = true ∧
    ∃ n, Impl.deserBitlistTree H lim (s.take scope) = some n ∧
      n.root H = Spec.htr H (.bitlist lim) (.bits bits) := by
  have hwt := (sound (.bitlist lim) hwf s scope _ rest (le_of_take_length (deser_bitlist_length h)) h).1
  obtain ⟨n, hn, hr⟩ := ConstructRoot.construct_spec H (.bitlist lim) (.bits bits) hwf hwt
  exact ⟨hwt, n, (bitlist_tree H lim s scope bits rest h).trans hn, hr⟩

theorem decoded_bitvector_root (H : Hash) (len : Nat) (s : List UInt8) (scope : Nat) (bits : List Bool)
    (rest : List UInt8) (hwf : (Ty.bitvector len).wf = true)
    (h : Impl.deser (.bitvector len) s scope = some (.bits bits, rest)) :
    WT (.bitvector len) (.bits bits) = true ∧
    ∃ n, Impl.deserBitvectorTree H len (s.take scope) = some n ∧
      n.root H = Spec.htr H (.bitvector len) (.bits bits) := by
  have hwt := (sound (.bitvector len) hwf s scope _ rest (le_of_take_length (deser_bitvector_length h)) h).1
  obtain ⟨n, hn, hr⟩ := ConstructRoot.construct_spec H (.bitvector len) (.bits bits) hwf hwt
  exact ⟨hwt, n, (bitvector_tree H len s scope bits rest h).trans hn, hr⟩

/-- the tree the decoder of a bit field type builds directly from the input (`none` for the other kinds,
    whose decoders go through the constructors) -/
def bitfieldTree (H : Hash) : Ty → List UInt8 → Option Node
  | .bitlist lim, bs => Impl.deserBitlistTree H lim bs
  | .bitvector len, bs => Impl.deserBitvectorTree H len bs
  | _, _ => none

def toyH : Hash := fun a b => a ++ b

def inA : List UInt8 := List.replicate 34 0xab ++ [0x05]     -- 35 bytes, bit length 274
def inB : List UInt8 := List.replicate 32 0xff ++ [0x01]     -- 33 bytes, bit length 256: no last chunk
def inC : List UInt8 := List.replicate 37 0x5a ++ [0x0b]     -- 38 bytes, Bitvector[300]

set_option maxRecDepth 100000 in
example : (Impl.deser (.bitlist 600) inA 35).isSome = true ∧
    (Impl.deserBitlistTree toyH 600 (inA.take 35)).isSome = true ∧
    Impl.deserBitlistTree toyH 600 (inA.take 35) = viaConstruct toyH (.bitlist 600) inA 35 := by
  have hl : (inA.take 35).length = 35 := by decide
  have h1 : (Impl.deser (.bitlist 600) inA 35).isSome = true := by decide
  have h3 := bitlist_tree_via toyH 600 inA 35 hl
  exact ⟨h1, by rw [h3, viaConstruct_isSome toyH _ inA 35 rfl (le_of_take_length hl), h1], h3⟩

set_option maxRecDepth 100000 in
example : (Impl.deser (.bitlist 600) inB 33).isSome = true ∧
    (Impl.deserBitlistTree toyH 600 (inB.take 33)).isSome = true ∧
    Impl.deserBitlistTree toyH 600 (inB.take 33) = viaConstruct toyH (.bitlist 600) inB 33 := by
  have hl : (inB.take 33).length = 33 := by decide
  have h1 : (Impl.deser (.bitlist 600) inB 33).isSome = true := by decide
  have h3 := bitlist_tree_via toyH 600 inB 33 hl
  exact ⟨h1, by rw [h3, viaConstruct_isSome toyH _ inB 33 rfl (le_of_take_length hl), h1], h3⟩

set_option maxRecDepth 100000 in
example : (Impl.deser (.bitvector 300) inC 38).isSome = true ∧
    (Impl.deserBitvectorTree toyH 300 (inC.take 38)).isSome = true ∧
    Impl.deserBitvectorTree toyH 300 (inC.take 38) = viaConstruct toyH (.bitvector 300) inC 38 := by
  have hl : (inC.take 38).length = 38 := by decide
  have h1 : (Impl.deser (.bitvector 300) inC 38).isSome = true := by decide
  have h3 := bitvector_tree_via toyH 300 inC 38 hl
  exact ⟨h1, by rw [h3, viaConstruct_isSome toyH _ inC 38 (by decide) (le_of_take_length hl), h1], h3⟩

/-- the empty bit list (`[1]`): the constructor takes the default-node branch -/
example : (Impl.deserBitlistTree toyH 600 [1]).isSome = true ∧
    Impl.deserBitlistTree toyH 600 [1] = viaConstruct toyH (.bitlist 600) [1] 1 ∧
    Impl.deserBitlistTree toyH 600 [1] = Impl.defaultNode toyH (.bitlist 600) := by
  have h2 : Impl.deserBitlistTree toyH 600 [1] = viaConstruct toyH (.bitlist 600) [1] 1 :=
    bitlist_tree_via toyH 600 [1] 1 rfl
  have h3 : viaConstruct toyH (.bitlist 600) [1] 1 = Impl.defaultNode toyH (.bitlist 600) := rfl
  exact ⟨by rw [h2, h3]; rfl, h2, h2.trans h3⟩

/-- rejected inputs: last byte zero; bit length over the limit; set padding bits in a bit vector -/
example : Impl.deser (.bitlist 600) [3, 0] 2 = none ∧ Impl.deserBitlistTree toyH 600 [3, 0] = none ∧
    Impl.deser (.bitlist 9) [3, 0x08] 2 = none ∧ Impl.deserBitlistTree toyH 9 [3, 0x08] = none ∧
    Impl.deser (.bitvector 10) [3, 0x04] 2 = none ∧ Impl.deserBitvectorTree toyH 10 [3, 0x04] = none := by
  decide +kernel

end Rmk.DeserTreeLaws
