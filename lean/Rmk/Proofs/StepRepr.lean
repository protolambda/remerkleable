/-
A mutated view is indistinguishable from a fresh value (properties C04 and C14).

`Impl.apply H t n op` mirrors the public mutators on a backing tree; `Spec.applyOp t v op` is the
value-level effect with the constraint checks.  With `Impl.Repr H t v n` ("`n` represents `v`"):
 * `step_repr`  : a successful tree-level op corresponds to the value-level op and lands in `Repr`;
 * `step_ok`    : whenever the value-level op is allowed, the tree-level op succeeds;
 * `step_none_iff` : the tree-level op fails exactly when the value-level op does (C14);
 * `history_repr`, `history_root`, `history_read` : after any sequence of mutations (failing ones
   skipped) the view holds exactly the content the sequence implies, has its spec root, and reads
   back exactly that content.
Everything is generic in the pair hash `H`.
-/
import Rmk.Spec.Apply
import Rmk.Proofs.ChunkTree
import Rmk.Proofs.ConstructRoot
import Rmk.Proofs.ListRel
import Rmk.Proofs.Merkleize
import Rmk.Proofs.PackArith
import Rmk.Proofs.Packing
import Rmk.Proofs.ReprBasics
import Rmk.Proofs.StepReprLemmas
import Rmk.Proofs.TypeLemmas
namespace Rmk.StepRepr
open Rmk Rmk.Impl Rmk.Spec
open Rmk.ChunkTreeLemmas Rmk.ConstructRoot Rmk.ReprBasics

/-- `op` on the tree `n` follows `op` on the value `v`: where the value-level operation is allowed the
    tree operation succeeds in a tree representing the result, where it is not the tree operation fails -/
def Sim (H : Hash) (t : Ty) (v : Val) (n : Node) (op : Op) : Prop :=
  (∀ v', applyOp t v op = some v' → ∃ n', Impl.apply H t n op = some n' ∧ Impl.Repr H t v' n') ∧
  (applyOp t v op = none → Impl.apply H t n op = none)

theorem sim_some {H : Hash} {t : Ty} {v : Val} {n : Node} {op : Op} {v' : Val} {n' : Node}
    (ha : applyOp t v op = some v') (hp : Impl.apply H t n op = some n')
    (hr : Impl.Repr H t v' n') : Sim H t v n op := by
  rw [Sim, ha]
  exact ⟨fun _ h => Option.some.inj h ▸ ⟨n', hp, hr⟩, fun h => (nomatch h)⟩

theorem sim_none {H : Hash} {t : Ty} {v : Val} {n : Node} {op : Op}
    (ha : applyOp t v op = none) (hp : Impl.apply H t n op = none) : Sim H t v n op := by
  rw [Sim, ha]
  exact ⟨fun _ h => (nomatch h), fun _ => hp⟩

theorem construct_none_of_not_wt (H : Hash) (t : Ty) (v : Val) (hwf : t.wf = true)
    (h : ¬ WT t v = true) : Impl.construct H t v = none := by
  cases hc : Impl.construct H t v with
  | none => rfl
  | some n => exact absurd (construct_some_wt H t v n hc hwf) h

theorem constructOpt_none_of_not_wt (H : Hash) (opts : List Ty) (k : Nat) (v : Val)
    (hwf : Ty.wfList opts = true) (h : ¬ WTopt opts k v = true) :
    Impl.constructOpt H opts k v = none := by
  cases hc : Impl.constructOpt H opts k v with
  | none => rfl
  | some n => exact absurd (constructOpt_some_wt H opts k v n hc hwf) h

/-- `n` holds the contents tree `c` (of height `d`) at its first `2 ^ d` positions of height `D`, and
    a write there makes `n` into `wrap` of the new contents.  The two instances: the contents tree
    itself (vectors, bitvectors) and the contents below a length mix-in (lists, bitlists). -/
def Anchor (H : Hash) (n : Node) (D : Nat) (c : Node) (d : Nat) (wrap : Node → Node) : Prop :=
  ∀ i, i < 2 ^ d → Impl.getAt n i D = Impl.getAt c i d ∧
    ∀ e x, Impl.setAt H e n i D x = (Impl.setAt H e c i d x).map wrap

theorem anchor_self (H : Hash) (c : Node) (d : Nat) : Anchor H c d c d fun c' => c' :=
  fun _ _ => ⟨rfl, fun _ _ => Option.map_id'.symm⟩

theorem anchor_mixin (H : Hash) (c lenN : Node) (d : Nat) :
    Anchor H (.pair c lenN) (d + 1) c d (.pair · lenN) :=
  fun _ hi => ⟨getAt_mixin c lenN hi, fun e x => setAt_mixin H e c lenN x hi⟩

namespace Anchor
variable {H : Hash} {n c : Node} {D d : Nat} {wrap : Node → Node} {ls : List Node}
  (A : Anchor H n D c d wrap) (hct : ChunkTree H d ls c)
include A hct

theorem get {i : Nat} (hi : i < ls.length) : Impl.getAt n i D = some ls[i] := by
  rw [(A i (Nat.lt_of_lt_of_le hi (ct_length_le hct))).1, ct_get hct hi]

theorem set {i : Nat} (hi : i < ls.length) (e : Bool) (x : Node) :
    ∃ c', Impl.setAt H e n i D x = some (wrap c') ∧ ChunkTree H d (ls.set i x) c' := by
  obtain ⟨c', hs, hc'⟩ := ct_setAt hct hi e x
  exact ⟨c', by rw [(A i (Nat.lt_of_lt_of_le hi (ct_length_le hct))).2, hs]; rfl, hc'⟩

/-- appending a node, with expansion of a zero summary -/
theorem push (hlen : ls.length < 2 ^ d) (x : Node) :
    ∃ c', Impl.setAt H true n ls.length D x = some (wrap c') ∧ ChunkTree H d (ls ++ [x]) c' := by
  obtain ⟨c', hs, hc'⟩ := ct_push hct hlen x
  exact ⟨c', by rw [(A _ hlen).2, hs]; rfl, hc'⟩

end Anchor

/-! The tree-level steps of a view whose elements are packed in chunks, for `packInts` and `packBits`
at once (`Chunked`). -/
namespace Chunked
variable {α : Type} {per : Nat} {d0 : α} {zero : Chunk} {pack : List α → List Chunk}
  {chunk : List α → Nat → Chunk} {splice : Chunk → Nat → α → Chunk}
  (C : Chunked per d0 zero pack chunk splice)
  {H : Hash} {n c : Node} {D d : Nat} {wrap : Node → Node} {xs : List α}
include C

section
variable (A : Anchor H n D c d wrap) (hct : ChunkTree H d ((pack xs).map .leaf) c)
include A hct

/-- element `i` changes and the number of chunks stays: chunk `i / per` is read, spliced and written
    back -/
theorem tree_update (xs' : List α) (i : Nat) (x : α)
    (hcount : (xs'.length + per - 1) / per = (xs.length + per - 1) / per)
    (hd : ∀ k, xs'.getD k d0 = if k = i then x else xs.getD k d0)
    (hj : i / per < (pack xs).length) :
    ∃ c', Impl.getAt n (i / per) D = some (.leaf (chunk xs (i / per))) ∧
      Impl.setAt H false n (i / per) D (.leaf (splice (chunk xs (i / per)) i x)) = some (wrap c') ∧
      ChunkTree H d ((pack xs').map .leaf) c' := by
  have hj' : i / per < ((pack xs).map Node.leaf).length := by rwa [List.length_map]
  obtain ⟨c', hs, hc'⟩ := A.set hct hj' false (.leaf (splice (chunk xs (i / per)) i x))
  refine ⟨c', ?_, hs, ?_⟩
  · rw [A.get hct hj', List.getElem_map, C.getElem]
  · rwa [C.pack_update xs xs' i x hcount hd, List.map_set]

theorem tree_set (i : Nat) (x : α) (hi : i < xs.length) :
    ∃ c', Impl.getAt n (i / per) D = some (.leaf (chunk xs (i / per))) ∧
      Impl.setAt H false n (i / per) D (.leaf (splice (chunk xs (i / per)) i x)) = some (wrap c') ∧
      ChunkTree H d ((pack (xs.set i x)).map .leaf) c' :=
  C.tree_update A hct _ i x (by rw [List.length_set]) (getD_set_eq xs i x d0 hi) (C.chunk_lt hi)

theorem tree_append_same (x : α) (hne : xs.length % per ≠ 0) :
    ∃ c', Impl.getAt n (xs.length / per) D = some (.leaf (chunk xs (xs.length / per))) ∧
      Impl.setAt H false n (xs.length / per) D
        (.leaf (splice (chunk xs (xs.length / per)) xs.length x)) = some (wrap c') ∧
      ChunkTree H d ((pack (xs ++ [x])).map .leaf) c' :=
  C.tree_update A hct _ xs.length x
    (by rw [List.length_append, List.length_singleton]; exact ceil_div_append C.per_pos hne)
    (getD_append_singleton xs x d0) (C.length xs ▸ div_lt_ceil_div_of_mod_ne_zero C.per_pos hne)

theorem tree_append_new (x : α) (hz : xs.length % per = 0) (hroom : xs.length / per < 2 ^ d) :
    ∃ c', Impl.setAt H true n (xs.length / per) D (.leaf (splice zero xs.length x))
        = some (wrap c') ∧
      ChunkTree H d ((pack (xs ++ [x])).map .leaf) c' := by
  have hcl : ((pack xs).map Node.leaf).length = xs.length / per := by
    rw [List.length_map, C.length, ceil_div_of_mod_eq_zero C.per_pos hz]
  have hpush := A.push hct (hcl ▸ hroom) (.leaf (splice zero xs.length x))
  rw [hcl] at hpush
  rwa [C.pack_append_new xs x hz, List.map_append]

theorem tree_pop_same (hpos : 0 < xs.length) (hne : (xs.length - 1) % per ≠ 0) :
    ∃ c', Impl.getAt n ((xs.length - 1) / per) D = some (.leaf (chunk xs ((xs.length - 1) / per))) ∧
      Impl.setAt H false n ((xs.length - 1) / per) D
        (.leaf (splice (chunk xs ((xs.length - 1) / per)) (xs.length - 1) d0)) = some (wrap c') ∧
      ChunkTree H d ((pack xs.dropLast).map .leaf) c' :=
  C.tree_update A hct _ (xs.length - 1) d0
    (by rw [List.length_dropLast]; exact ceil_div_pop C.per_pos hpos hne) (getD_dropLast xs d0)
    (C.chunk_lt (Nat.sub_one_lt (Nat.ne_of_gt hpos)))

end

/-- `pop` of the only element of the last chunk, below a length mix-in: the chunk is zeroed, then
    `popFinish` summarises and rebinds the length -/
theorem tree_pop_remove (hct : ChunkTree H d ((pack xs).map .leaf) c) (lenN : Node)
    (hpos : 0 < xs.length) (hz : (xs.length - 1) % per = 0) :
    ∃ c1, Impl.setAt H false (.pair c lenN) ((xs.length - 1) / per) (d + 1) (zeroNode H 0)
        = some (.pair c1 lenN) ∧
      ∀ (canSummarize : Bool) (newLen : Nat), ∃ c2,
        Impl.popFinish H (.pair c1 lenN) (pbits (d + 1) ((xs.length - 1) / per)) canSummarize newLen
          = some (.pair c2 (lenNode newLen)) ∧ ChunkTree H d ((pack xs.dropLast).map .leaf) c2 := by
  obtain ⟨hrm, hidx⟩ := C.pack_pop_remove xs hpos hz
  have hcne : (pack xs).map Node.leaf ≠ [] := List.ne_nil_of_length_pos (by
    rw [List.length_map]
    exact Nat.zero_lt_of_lt (C.chunk_lt (Nat.sub_one_lt (Nat.ne_of_gt hpos))))
  obtain ⟨c1, hs, -, hfin⟩ := ct_popFinish hct hcne lenN (IsZero.summary 0)
  rw [List.length_map, ← hidx] at hs hfin
  rw [← List.map_dropLast, ← hrm] at hfin
  exact ⟨c1, hs, hfin⟩

end Chunked

theorem rebindRight_pair (c lenN x : Node) : rebindRight (.pair c lenN) x = some (.pair c x) := rfl

theorem popFinish_false (H : Hash) (c lenN : Node) (p : List Bool) (k : Nat) :
    Impl.popFinish H (.pair c lenN) p false k = some (mixInNode c k) := by
  simp [Impl.popFinish, rebindRight, mixInNode]

theorem sim_container_set (H : Hash) (fs : List Ty) (hwf : Ty.wfList fs = true) (vs : List Val)
    (n : Node) (ns : List Node) (hf : ReprFields H fs vs ns)
    (hct : ChunkTree H (getDepth fs.length) ns n) (i : Nat) (x : Val) :
    Sim H (.container fs) (.seq vs) n (.set i x) := by
  have hl := reprFields_length hf
  cases hfi : fs[i]? with
  | none => exact sim_none (by unfold applyOp; simp [hfi]) (by unfold Impl.apply; simp [hfi])
  | some ft =>
    have hil : i < fs.length := by
      rcases List.getElem?_eq_some_iff.1 hfi with ⟨h, _⟩
      exact h
    have hftwf := wfList_getElem? fs hwf i ft hfi
    by_cases hx : WT ft x = true
    · obtain ⟨vn, hvn, hrvn⟩ := ConstructRoot.repr_exists H ft x hftwf hx
      obtain ⟨n', hs, hct'⟩ := ct_set hct (i := i) (by omega) vn
      refine sim_some (v' := .seq (vs.set i x)) (n' := n') ?_ ?_ ?_
      · unfold applyOp; simp [hfi, hx]; omega
      · unfold Impl.apply; simp [hfi, hvn, hs]
      · unfold Impl.Repr
        exact ⟨ns.set i vn, reprFields_set hf i ft x vn hfi hrvn, hct'⟩
    · exact sim_none (by unfold applyOp; simp [hfi, hx])
        (by unfold Impl.apply; simp [hfi, construct_none_of_not_wt H ft x hftwf hx])

theorem sim_union_change (H : Hash) (hasNone : Bool) (opts : List Ty) (hwf : Ty.wfList opts = true)
    (s0 : Nat) (v0 : Val) (n : Node) (sel : Nat) (x : Val) :
    Sim H (.union hasNone opts) (.un s0 v0) n (.change sel x) := by
  by_cases hsel : sel < optCount hasNone opts
  · by_cases hc : (hasNone && sel == 0) = true
    · cases x with
      | none =>
        refine sim_some (v' := .un sel .none) (n' := .pair (zeroNode H 0) (lenNode 0)) ?_ ?_ ?_
        · unfold applyOp; simp [WT, hc, hsel]
        · unfold Impl.apply; simp [hc, Nat.not_le.2 hsel]
        · simp only [Bool.and_eq_true, beq_iff_eq] at hc
          obtain ⟨hn, rfl⟩ := hc
          unfold Impl.Repr
          exact ⟨hsel, zeroNode H 0, rfl, by simp [hn]⟩
      | _ => exact sim_none (by unfold applyOp; simp [WT, hc]) (by unfold Impl.apply; simp [hc, Nat.not_le.2 hsel])
    · by_cases hx : WTopt opts (optIndex hasNone sel) x = true
      · have hsome := constructOpt_isSome H opts _ x hwf hx
        rw [Option.isSome_iff_exists] at hsome
        obtain ⟨c, hcn⟩ := hsome
        refine sim_some (v' := .un sel x) (n' := .pair c (lenNode sel)) ?_ ?_ ?_
        · unfold applyOp; simp [WT, hc, hsel, hx]
        · unfold Impl.apply; simp [hc, Nat.not_le.2 hsel, hcn]
        · unfold Impl.Repr
          refine ⟨hsel, c, rfl, ?_⟩
          rw [if_neg hc]
          exact constructOpt_repr H opts _ x c hwf hcn
      · exact sim_none (by unfold applyOp; simp [WT, hc, hx])
          (by unfold Impl.apply; simp [hc, Nat.not_le.2 hsel, constructOpt_none_of_not_wt H opts _ x hwf hx])
  · exact sim_none (by unfold applyOp; simp [hsel]) (by unfold Impl.apply; simp [Nat.le_of_not_lt hsel])

theorem wt_set {et : Ty} {vs : List Val} (hwt : ∀ v ∈ vs, WT et v = true) (i : Nat) (x : Val)
    (hx : WT et x = true) : ∀ v ∈ vs.set i x, WT et v = true := by
  intro v hv
  rcases List.mem_or_eq_of_mem_set hv with h | h
  · exact hwt v h
  · rw [h]; exact hx

theorem sim_vector_set (H : Hash) (et : Ty) (len : Nat) (hwf : et.wf = true) (vs : List Val)
    (n : Node) (h : Impl.Repr H (.vector et len) (.seq vs) n) (i : Nat) (x : Val) :
    Sim H (.vector et len) (.seq vs) n (.set i x) := by
  obtain ⟨hlen, h⟩ := repr_vector_iff.1 h
  by_cases hi : i < len
  · by_cases hx : WT et x = true
    · obtain ⟨vn, hvn, hrvn⟩ := ConstructRoot.repr_exists H et x hwf hx
      have ha : applyOp (.vector et len) (.seq vs) (.set i x) = some (.seq (vs.set i x)) := by
        unfold applyOp; simp [hi, hx, hlen]
      have hlen' : (vs.set i x).length = len := by rwa [List.length_set]
      have A := anchor_self H n (getDepth (chunkLen et len))
      by_cases hb : et.isBasic = true
      · rw [seqRepr_basic hb] at h
        obtain ⟨c', hg, hs, hct'⟩ := (packInts_chunked _ (per_pos et hwf hb)
          (perChunk_mul_basicSize et hwf hb)).tree_set A h.2 i (numOf x) (by simpa [hlen] using hi)
        refine sim_some ha (n' := c') ?_ (repr_vector_iff.2 ⟨hlen', ?_⟩)
        · unfold Impl.apply; simp only [ge_iff_le, Nat.not_le.2 hi, if_false, hvn, hb, if_true, hg,
            spliceBasic_eq, Node.root, hs]
        · rw [seqRepr_basic hb, List.map_set]
          exact ⟨wt_set h.1 i x hx, hct'⟩
      · rw [seqRepr_nonbasic hb] at h
        obtain ⟨ns, hall, hct⟩ := h
        obtain ⟨n', hs, hct'⟩ := A.set hct (allRel_length hall ▸ hlen ▸ hi) false vn
        refine sim_some ha (n' := n') ?_ (repr_vector_iff.2 ⟨hlen', ?_⟩)
        · unfold Impl.apply; simp only [ge_iff_le, Nat.not_le.2 hi, if_false, hvn, hb,
            Bool.false_eq_true, hs]
        · rw [seqRepr_nonbasic hb]
          exact ⟨ns.set i vn, allRel_set hall i hrvn, hct'⟩
    · exact sim_none (by unfold applyOp; simp [hx])
        (by unfold Impl.apply; simp [construct_none_of_not_wt H et x hwf hx])
  · exact sim_none (by unfold applyOp; simp [hi]) (by unfold Impl.apply; simp [Nat.le_of_not_lt hi])

theorem sim_list_set (H : Hash) (et : Ty) (lim : Nat) (hwf : et.wf = true) (hlim : lim < 2 ^ 256)
    (vs : List Val) (n : Node) (h : Impl.Repr H (.list et lim) (.seq vs) n) (i : Nat) (x : Val) :
    Sim H (.list et lim) (.seq vs) n (.set i x) := by
  obtain ⟨hlen, c, rfl, hs⟩ := repr_list_iff.1 h
  have hll := listLength_mixin H c vs.length (Nat.lt_of_le_of_lt hlen hlim)
  by_cases hi : i < vs.length
  · by_cases hx : WT et x = true
    · obtain ⟨vn, hvn, hrvn⟩ := ConstructRoot.repr_exists H et x hwf hx
      have ha : applyOp (.list et lim) (.seq vs) (.set i x) = some (.seq (vs.set i x)) := by
        unfold applyOp; simp [hi, hx]
      have hlen' : (vs.set i x).length ≤ lim := by rwa [List.length_set]
      have A := anchor_mixin H c (lenNode vs.length) (getDepth (chunkLen et lim))
      by_cases hb : et.isBasic = true
      · rw [seqRepr_basic hb] at hs
        obtain ⟨c', hg, hset, hct'⟩ := (packInts_chunked _ (per_pos et hwf hb)
          (perChunk_mul_basicSize et hwf hb)).tree_set A hs.2 i (numOf x) (by simpa using hi)
        refine sim_some ha (n' := mixInNode c' (vs.set i x).length) ?_
          (repr_list_iff.2 ⟨hlen', c', rfl, ?_⟩)
        · unfold Impl.apply; simp only [hll, ge_iff_le, Nat.not_le.2 hi, if_false, hvn, hb, if_true]
          simp only [mixInNode, hg, spliceBasic_eq, Node.root, hset, List.length_set]
        · rw [seqRepr_basic hb, List.map_set]
          exact ⟨wt_set hs.1 i x hx, hct'⟩
      · rw [seqRepr_nonbasic hb] at hs
        obtain ⟨ns, hall, hct⟩ := hs
        obtain ⟨c', hset, hct'⟩ := A.set hct (allRel_length hall ▸ hi) false vn
        refine sim_some ha (n' := mixInNode c' (vs.set i x).length) ?_
          (repr_list_iff.2 ⟨hlen', c', rfl, ?_⟩)
        · unfold Impl.apply; simp only [hll, ge_iff_le, Nat.not_le.2 hi, if_false, hvn, hb,
            Bool.false_eq_true]
          simp only [mixInNode, hset, List.length_set]
        · rw [seqRepr_nonbasic hb]
          exact ⟨ns.set i vn, allRel_set hall i hrvn, hct'⟩
    · exact sim_none (by unfold applyOp; simp [hx])
        (by unfold Impl.apply; simp [hll, construct_none_of_not_wt H et x hwf hx])
  · exact sim_none (by unfold applyOp; simp [hi]) (by unfold Impl.apply; simp [hll, Nat.le_of_not_lt hi])

theorem wt_append {et : Ty} {vs : List Val} (hwt : ∀ v ∈ vs, WT et v = true) (x : Val)
    (hx : WT et x = true) : ∀ v ∈ vs ++ [x], WT et v = true := by
  intro v hv
  rcases List.mem_append.1 hv with h | h
  · exact hwt v h
  · rw [List.mem_singleton.1 h]; exact hx

theorem spliceBasic_zeroNode (H : Hash) (size j v : Nat) :
    spliceBasic H size (zeroNode H 0) j v = .leaf (spliceBytes size zeroChunk j v) := rfl

theorem sim_list_append (H : Hash) (et : Ty) (lim : Nat) (hwf : et.wf = true) (hlim : lim < 2 ^ 256)
    (vs : List Val) (n : Node) (h : Impl.Repr H (.list et lim) (.seq vs) n) (x : Val) :
    Sim H (.list et lim) (.seq vs) n (.append x) := by
  -- as `List.append`: a packed element opens a new chunk (`tree_append_new`) or is spliced into the last one
  -- (`tree_append_same`); a composite element is pushed as a subtree (`A.push`)
  obtain ⟨hlen, c, rfl, hs⟩ := repr_list_iff.1 h
  have hll := listLength_mixin H c vs.length (Nat.lt_of_le_of_lt hlen hlim)
  by_cases hlt : vs.length < lim
  · by_cases hx : WT et x = true
    · obtain ⟨vn, hvn, hrvn⟩ := ConstructRoot.repr_exists H et x hwf hx
      have ha : applyOp (.list et lim) (.seq vs) (.append x) = some (.seq (vs ++ [x])) := by
        unfold applyOp; simp [hlt, hx]
      have hlen' : (vs ++ [x]).length ≤ lim := by
        rw [List.length_append]
        exact hlt
      have A := anchor_mixin H c (lenNode vs.length) (getDepth (chunkLen et lim))
      by_cases hb : et.isBasic = true
      · rw [seqRepr_basic hb] at hs
        have C := packInts_chunked _ (per_pos et hwf hb) (perChunk_mul_basicSize et hwf hb)
        have hrepr : ∀ c', ChunkTree H (getDepth (chunkLen et lim))
            ((packInts et.basicSize ((vs.map numOf) ++ [numOf x])).map .leaf) c' →
            Impl.Repr H (.list et lim) (.seq (vs ++ [x])) (mixInNode c' (vs ++ [x]).length) :=
          fun c' hct' => repr_list_iff.2 ⟨hlen', c', rfl, by
            rw [seqRepr_basic hb, List.map_append]
            exact ⟨wt_append hs.1 x hx, hct'⟩⟩
        by_cases hz : vs.length % (32 / et.basicSize) = 0
        · obtain ⟨c', hset, hct'⟩ := C.tree_append_new A hs.2 (numOf x) (by simpa using hz)
            (by
              rw [List.length_map]
              exact Nat.lt_of_lt_of_le (DefaultNode.packed_chunk_lt et hwf hb lim _ hlt).1
                (two_pow_getDepth _))
          rw [List.length_map, hz] at hset
          refine sim_some ha ?_ (hrepr c' hct')
          unfold Impl.apply; simp only [hll, ge_iff_le, Nat.not_le.2 hlt, if_false, hvn, hb, if_true,
            hz, beq_self_eq_true, spliceBasic_zeroNode]
          simp only [mixInNode, hset, Option.bind_some, rebindRight, List.length_append,
            List.length_singleton]
        · obtain ⟨c', hg, hset, hct'⟩ := C.tree_append_same A hs.2 (numOf x) (by simpa using hz)
          rw [List.length_map] at hg hset
          refine sim_some ha ?_ (hrepr c' hct')
          unfold Impl.apply; simp only [hll, ge_iff_le, Nat.not_le.2 hlt, if_false, hvn, hb, if_true,
            beq_iff_eq, hz]
          simp only [mixInNode, hg, spliceBasic_eq, Node.root, hset, Option.bind_some, rebindRight,
            List.length_append, List.length_singleton]
      · rw [seqRepr_nonbasic hb] at hs
        obtain ⟨ns, hall, hct⟩ := hs
        have hl := allRel_length hall
        have hpush := A.push hct (hl ▸ Nat.lt_of_lt_of_le hlt (by
          rw [chunkLen_nonbasic et lim hb]
          exact two_pow_getDepth lim)) vn
        rw [← hl] at hpush
        obtain ⟨c', hset, hct'⟩ := hpush
        refine sim_some ha (n' := mixInNode c' (vs ++ [x]).length) ?_
          (repr_list_iff.2 ⟨hlen', c', rfl, ?_⟩)
        · unfold Impl.apply; simp only [hll, ge_iff_le, Nat.not_le.2 hlt, if_false, hvn, hb,
            Bool.false_eq_true]
          simp only [mixInNode, hset, Option.bind_some, rebindRight, List.length_append,
            List.length_singleton]
        · rw [seqRepr_nonbasic hb]
          exact ⟨ns ++ [vn], allRel_append_singleton hall hrvn, hct'⟩
    · exact sim_none (by unfold applyOp; simp [hx])
        (by unfold Impl.apply; simp [hll, construct_none_of_not_wt H et x hwf hx])
  · exact sim_none (by unfold applyOp; simp [hlt]) (by unfold Impl.apply; simp [hll, Nat.le_of_not_lt hlt])

/-- a chunk index below the number of chunks is no out-of-range index of the tree with mix-in -/
theorem not_ge_two_pow_succ {j k d : Nat} (hj : j < k) (hk : k ≤ 2 ^ d) : ¬ j ≥ 2 ^ (d + 1) :=
  Nat.not_le.2 (Nat.lt_of_lt_of_le hj
    (Nat.le_trans hk (Nat.pow_le_pow_right (by decide) (Nat.le_succ d))))

theorem mem_of_mem_dropLast {α} {l : List α} {a : α} (h : a ∈ l.dropLast) : a ∈ l := by
  rw [List.dropLast_eq_take] at h; exact List.mem_of_mem_take h

theorem sim_list_pop (H : Hash) (et : Ty) (lim : Nat) (hwf : et.wf = true) (hlim : lim < 2 ^ 256)
    (vs : List Val) (n : Node) (h : Impl.Repr H (.list et lim) (.seq vs) n) :
    Sim H (.list et lim) (.seq vs) n .pop := by
  -- as `List.pop`: a packed element alone in its chunk takes the chunk with it (`tree_pop_remove`), otherwise the
  -- last chunk is respliced (`tree_pop_same`); a composite element is removed by `ct_popFinish`
  obtain ⟨hlen, c, rfl, hs⟩ := repr_list_iff.1 h
  have hll := listLength_mixin H c vs.length (Nat.lt_of_le_of_lt hlen hlim)
  by_cases hpos : vs.length = 0
  · exact sim_none (by unfold applyOp; simp [hpos]) (by unfold Impl.apply; simp only [hll]; simp [hpos])
  · have ha : applyOp (.list et lim) (.seq vs) .pop = some (.seq vs.dropLast) := by
      unfold applyOp; simp [hpos]
    have hlen' : vs.dropLast.length ≤ lim := by
      rw [List.length_dropLast]
      exact Nat.le_trans (Nat.sub_le _ _) hlen
    have A := anchor_mixin H c (lenNode vs.length) (getDepth (chunkLen et lim))
    by_cases hb : et.isBasic = true
    · rw [seqRepr_basic hb] at hs
      have hper := per_pos et hwf hb
      have hmul := perChunk_mul_basicSize et hwf hb
      have C := packInts_chunked _ hper hmul
      have hpos' : 0 < (vs.map numOf).length := by
        rw [List.length_map]
        exact Nat.pos_of_ne_zero hpos
      have hle := ct_length_le hs.2
      rw [List.length_map] at hle
      have hnotge := not_ge_two_pow_succ (C.chunk_lt (Nat.sub_one_lt (Nat.ne_of_gt hpos'))) hle
      rw [List.length_map] at hnotge
      have hrepr : ∀ c', ChunkTree H (getDepth (chunkLen et lim))
          ((packInts et.basicSize (vs.map numOf).dropLast).map .leaf) c' →
          Impl.Repr H (.list et lim) (.seq vs.dropLast) (mixInNode c' (vs.length - 1)) :=
        fun c' hct' => repr_list_iff.2 ⟨hlen', c', by rw [List.length_dropLast], by
          rw [seqRepr_basic hb, List.map_dropLast]
          exact ⟨fun v hv => hs.1 v (mem_of_mem_dropLast hv), hct'⟩⟩
      by_cases hz : (vs.length - 1) % (32 / et.basicSize) = 0
      · obtain ⟨c1, hset, hfin⟩ := C.tree_pop_remove hs.2 (lenNode vs.length) hpos' (by simpa using hz)
        rw [List.length_map] at hset hfin
        obtain ⟨c2, hpf, hct'⟩ := hfin ((vs.length - 1) / (32 / et.basicSize) % 2 == 0 && true)
          (vs.length - 1)
        refine sim_some ha ?_ (hrepr c2 hct')
        unfold Impl.apply; simp only [hll, hpos, if_false, hb, if_true, hnotge, hz, beq_self_eq_true,
          spliceBasic_zeroNode, spliceBytes_zero_zero _
            (Nat.le_trans (Nat.le_mul_of_pos_left _ hper) (Nat.le_of_eq hmul))]
        simp only [mixInNode] at hset hpf ⊢
        have hzn : Node.leaf zeroChunk = zeroNode H 0 := rfl
        rw [hzn, hset]
        simp only [hpf]
      · obtain ⟨c', hg, hset, hct'⟩ := C.tree_pop_same A hs.2 hpos' (by simpa using hz)
        rw [List.length_map] at hg hset
        have hzb : ((vs.length - 1) % (32 / et.basicSize) == 0) = false := by simp [hz]
        refine sim_some ha ?_ (hrepr c' hct')
        unfold Impl.apply; simp only [hll, hpos, if_false, hb, if_true, hnotge, hzb, Bool.false_eq_true]
        simp only [mixInNode, hg, spliceBasic_eq, Node.root, hset, Bool.and_false, popFinish_false]
    · rw [seqRepr_nonbasic hb] at hs
      obtain ⟨ns, hall, hct⟩ := hs
      have hl := allRel_length hall
      have hnne : ns ≠ [] := by
        intro e; rw [e] at hl; exact hpos hl
      obtain ⟨c1, hset, -, hfin⟩ := ct_popFinish hct hnne (lenNode vs.length) (IsZero.summary 0)
      rw [← hl] at hset hfin
      obtain ⟨c2, hpf, hct'⟩ := hfin ((vs.length - 1) % 2 == 0) (vs.length - 1)
      refine sim_some ha (n' := mixInNode c2 (vs.length - 1)) ?_
        (repr_list_iff.2 ⟨hlen', c2, by rw [List.length_dropLast], ?_⟩)
      · unfold Impl.apply; simp only [hll, hpos, if_false, hb, Bool.false_eq_true]
        simp only [mixInNode] at hset hpf ⊢
        simp only [hset, hpf]
      · rw [seqRepr_nonbasic hb]
        exact ⟨ns.dropLast, allRel_dropLast hall, hct'⟩

theorem chunkWithBit_zeroNode (H : Hash) (i : Nat) (v : Bool) :
    chunkWithBit H (zeroNode H 0) i v = .leaf (bitSplice zeroChunk i v) := rfl

theorem sim_bitvector_set (H : Hash) (len : Nat) (bs : List Bool) (n : Node)
    (h : Impl.Repr H (.bitvector len) (.bits bs) n) (i : Nat) (x : Val) :
    Sim H (.bitvector len) (.bits bs) n (.set i x) := by
  obtain ⟨hlen, hct⟩ := h
  cases x with
  | num b =>
    by_cases hi : i < len
    · obtain ⟨c', hg, hs, hct'⟩ := packBits_chunked.tree_set (anchor_self H n _) hct i (b != 0)
        (hlen ▸ hi)
      refine sim_some (v' := .bits (bs.set i (b != 0))) (n' := c') ?_ ?_
        ⟨by rwa [List.length_set], hct'⟩
      · unfold applyOp; simp [hi, hlen]
      · unfold Impl.apply; simp only [ge_iff_le, Nat.not_le.2 hi, if_false, hg, Option.bind_some,
          chunkWithBit_eq, Node.root, hs]
    · exact sim_none (by unfold applyOp; simp [hi]) (by unfold Impl.apply; simp [Nat.le_of_not_lt hi])
  | _ => exact sim_none (by unfold applyOp; simp) (by unfold Impl.apply; simp)

theorem sim_bitlist_set (H : Hash) (lim : Nat) (hlim : lim < 2 ^ 256) (bs : List Bool) (n : Node)
    (h : Impl.Repr H (.bitlist lim) (.bits bs) n) (i : Nat) (x : Val) :
    Sim H (.bitlist lim) (.bits bs) n (.set i x) := by
  obtain ⟨hlen, c, rfl, hct⟩ := h
  have hll := listLength_mixin H c bs.length (Nat.lt_of_le_of_lt hlen hlim)
  cases x with
  | num b =>
    by_cases hi : i < bs.length
    · obtain ⟨c', hg, hs, hct'⟩ := packBits_chunked.tree_set
        (anchor_mixin H c (lenNode bs.length) _) hct i (b != 0) hi
      refine sim_some (v' := .bits (bs.set i (b != 0))) (n' := mixInNode c' bs.length) ?_ ?_
        ⟨by rwa [List.length_set], c', by rw [List.length_set], hct'⟩
      · unfold applyOp; simp [hi]
      · unfold Impl.apply; simp only [hll, ge_iff_le, Nat.not_le.2 hi, if_false]
        simp only [mixInNode, hg, Option.bind_some, chunkWithBit_eq, Node.root, hs]
    · exact sim_none (by unfold applyOp; simp [hi]) (by unfold Impl.apply; simp [hll, Nat.le_of_not_lt hi])
  | _ => exact sim_none (by unfold applyOp; simp) (by unfold Impl.apply; simp [hll])

theorem sim_bitlist_append (H : Hash) (lim : Nat) (hlim : lim < 2 ^ 256) (bs : List Bool) (n : Node)
    (h : Impl.Repr H (.bitlist lim) (.bits bs) n) (x : Val) :
    Sim H (.bitlist lim) (.bits bs) n (.append x) := by
  obtain ⟨hlen, c, rfl, hct⟩ := h
  have hll := listLength_mixin H c bs.length (Nat.lt_of_le_of_lt hlen hlim)
  have A := anchor_mixin H c (lenNode bs.length) (getDepth ((lim + 255) / 256))
  cases x with
  | num b =>
    by_cases hlt : bs.length < lim
    · have ha : applyOp (.bitlist lim) (.bits bs) (.append (.num b)) = some (.bits (bs ++ [b != 0])) := by
        unfold applyOp; simp [hlt]
      have hrepr : ∀ c', ChunkTree H (getDepth ((lim + 255) / 256))
          ((packBits (bs ++ [b != 0])).map .leaf) c' →
          Impl.Repr H (.bitlist lim) (.bits (bs ++ [b != 0])) (mixInNode c' (bs.length + 1)) :=
        fun c' hct' => ⟨by rw [List.length_append]; exact hlt, c',
          by rw [List.length_append, List.length_singleton], hct'⟩
      by_cases hz : bs.length % 256 = 0
      · obtain ⟨c', hs, hct'⟩ := packBits_chunked.tree_append_new A hct (b != 0) hz
          (Nat.lt_of_lt_of_le (div_lt_cdiv (c := 256) (by decide) hlt)
            (two_pow_getDepth _))
        rw [bitSplice_mod _ _ _ hz] at hs
        refine sim_some ha ?_ (hrepr c' hct')
        unfold Impl.apply; simp only [hll, ge_iff_le, Nat.not_le.2 hlt, if_false, hz, beq_self_eq_true,
          if_true, chunkWithBit_zeroNode]
        simp only [mixInNode, hs, Option.bind_some, rebindRight]
      · obtain ⟨c', hg, hs, hct'⟩ := packBits_chunked.tree_append_same A hct (b != 0) hz
        have hzb : (bs.length % 256 == 0) = false := by simp [hz]
        refine sim_some ha ?_ (hrepr c' hct')
        unfold Impl.apply; simp only [hll, ge_iff_le, Nat.not_le.2 hlt, if_false, hzb,
          Bool.false_eq_true]
        simp only [mixInNode, hg, Option.bind_some, chunkWithBit_eq, Node.root, hs, rebindRight]
    · exact sim_none (by unfold applyOp; simp [hlt]) (by unfold Impl.apply; simp [hll, Nat.le_of_not_lt hlt])
  | _ => exact sim_none (by unfold applyOp; simp) (by unfold Impl.apply; simp [hll])

theorem sim_bitlist_pop (H : Hash) (lim : Nat) (hlim : lim < 2 ^ 256) (bs : List Bool) (n : Node)
    (h : Impl.Repr H (.bitlist lim) (.bits bs) n) :
    Sim H (.bitlist lim) (.bits bs) n .pop := by
  obtain ⟨hlen, c, rfl, hct⟩ := h
  have hll := listLength_mixin H c bs.length (Nat.lt_of_le_of_lt hlen hlim)
  by_cases hpos : bs.length = 0
  · exact sim_none (by unfold applyOp; simp [hpos]) (by unfold Impl.apply; simp only [hll]; simp [hpos])
  · have ha : applyOp (.bitlist lim) (.bits bs) .pop = some (.bits bs.dropLast) := by
      unfold applyOp; simp [hpos]
    have hpos' := Nat.pos_of_ne_zero hpos
    have hle := ct_length_le hct
    rw [List.length_map] at hle
    have hnotge := not_ge_two_pow_succ (packBits_chunked.chunk_lt (Nat.sub_one_lt hpos)) hle
    have hrepr : ∀ c', ChunkTree H (getDepth ((lim + 255) / 256))
        ((packBits bs.dropLast).map .leaf) c' →
        Impl.Repr H (.bitlist lim) (.bits bs.dropLast) (mixInNode c' (bs.length - 1)) :=
      fun c' hct' => ⟨by rw [List.length_dropLast]; exact Nat.le_trans (Nat.sub_le _ _) hlen, c',
        by rw [List.length_dropLast], hct'⟩
    by_cases hz : (bs.length - 1) % 256 = 0
    · obtain ⟨c1, hs, hfin⟩ := packBits_chunked.tree_pop_remove hct (lenNode bs.length) hpos' hz
      obtain ⟨c2, hpf, hct'⟩ := hfin ((bs.length - 1) / 256 % 2 == 0 && true) (bs.length - 1)
      refine sim_some ha ?_ (hrepr c2 hct')
      unfold Impl.apply; simp only [hll, hpos, if_false, hnotge, hz, beq_self_eq_true, if_true]
      simp only [mixInNode] at hs hpf ⊢
      simp only [hs, Option.bind_some, hpf]
    · obtain ⟨c', hg, hs, hct'⟩ := packBits_chunked.tree_pop_same
        (anchor_mixin H c (lenNode bs.length) _) hct hpos' hz
      have hzb : ((bs.length - 1) % 256 == 0) = false := by simp [hz]
      refine sim_some ha ?_ (hrepr c' hct')
      unfold Impl.apply; simp only [hll, hpos, if_false, hnotge, hzb, Bool.false_eq_true]
      simp only [mixInNode, hg, Option.bind_some, chunkWithBit_eq, Node.root, hs,
        Bool.and_false, popFinish_false]

theorem step_sim (H : Hash) (t : Ty) (hwf : t.wf = true) (hlim : limitsOk t = true) (v : Val)
    (n : Node) (h : Impl.Repr H t v n) (op : Op) : Sim H t v n op := by
  -- one `sim_*` lemma per (type, operation) pair the library supports; every other pair fails on both sides
  cases t with
  | uint nb =>
    cases v <;> try (unfold Impl.Repr at h; exact h.elim)
    cases op <;> exact sim_none rfl rfl
  | bool =>
    cases v <;> try (unfold Impl.Repr at h; exact h.elim)
    cases op <;> exact sim_none rfl rfl
  | bitvector len =>
    cases v <;> try (unfold Impl.Repr at h; exact h.elim)
    cases op with
    | set i x => exact sim_bitvector_set H len _ n h i x
    | append x => exact sim_none rfl rfl
    | pop => exact sim_none rfl rfl
    | change sel x => exact sim_none rfl rfl
  | bitlist lim =>
    cases v <;> try (unfold Impl.Repr at h; exact h.elim)
    unfold limitsOk at hlim; simp at hlim
    cases op with
    | set i x => exact sim_bitlist_set H lim hlim _ n h i x
    | append x => exact sim_bitlist_append H lim hlim _ n h x
    | pop => exact sim_bitlist_pop H lim hlim _ n h
    | change sel x => exact sim_none rfl rfl
  | bytevector len =>
    cases v <;> try (unfold Impl.Repr at h; exact h.elim)
    cases op <;> exact sim_none rfl rfl
  | bytelist lim =>
    cases v <;> try (unfold Impl.Repr at h; exact h.elim)
    cases op <;> exact sim_none rfl rfl
  | vector et len =>
    cases v <;> try (unfold Impl.Repr at h; exact h.elim)
    unfold Ty.wf at hwf; simp at hwf
    cases op with
    | set i x => exact sim_vector_set H et len hwf.2 _ n h i x
    | append x => exact sim_none rfl rfl
    | pop => exact sim_none rfl rfl
    | change sel x => exact sim_none rfl rfl
  | list et lim =>
    cases v <;> try (unfold Impl.Repr at h; exact h.elim)
    unfold Ty.wf at hwf
    unfold limitsOk at hlim; simp at hlim
    cases op with
    | set i x => exact sim_list_set H et lim hwf hlim.1 _ n h i x
    | append x => exact sim_list_append H et lim hwf hlim.1 _ n h x
    | pop => exact sim_list_pop H et lim hwf hlim.1 _ n h
    | change sel x => exact sim_none rfl rfl
  | container fs =>
    cases v <;> try (unfold Impl.Repr at h; exact h.elim)
    unfold Ty.wf at hwf; simp at hwf
    cases op with
    | set i x =>
      unfold Impl.Repr at h
      obtain ⟨ns, hf, hct⟩ := h
      exact sim_container_set H fs hwf.2 _ n ns hf hct i x
    | append x => exact sim_none rfl rfl
    | pop => exact sim_none rfl rfl
    | change sel x => exact sim_none rfl rfl
  | union hasNone opts =>
    cases v <;> try (unfold Impl.Repr at h; exact h.elim)
    unfold Ty.wf at hwf; simp at hwf
    cases op with
    | set i x => exact sim_none rfl rfl
    | append x => exact sim_none rfl rfl
    | pop => exact sim_none rfl rfl
    | change sel x => exact sim_union_change H hasNone opts hwf.2 _ _ n sel x

variable (H : Hash)

theorem step_repr (t : Ty) (hwf : t.wf = true) (hlim : limitsOk t = true) (v : Val) (n : Node)
    (hr : Impl.Repr H t v n) (op : Op) (n' : Node) (h : Impl.apply H t n op = some n') :
    ∃ v', applyOp t v op = some v' ∧ Impl.Repr H t v' n' := by
  obtain ⟨hsome, hnone⟩ := step_sim H t hwf hlim v n hr op
  cases ha : applyOp t v op with
  | none =>
    rw [hnone ha] at h
    cases h
  | some v' =>
    obtain ⟨n'', hn, hr'⟩ := hsome v' ha
    rw [h] at hn
    cases hn
    exact ⟨v', rfl, hr'⟩

theorem step_ok (t : Ty) (hwf : t.wf = true) (hlim : limitsOk t = true) (v : Val) (n : Node)
    (hr : Impl.Repr H t v n) (op : Op) (v' : Val) (h : applyOp t v op = some v') :
    ∃ n', Impl.apply H t n op = some n' ∧ Impl.Repr H t v' n' :=
  (step_sim H t hwf hlim v n hr op).1 v' h

/-- C14 at the model level: the tree-level operation fails (raises; no new state) exactly when the
    value-level operation violates a constraint -/
theorem step_none_iff (t : Ty) (hwf : t.wf = true) (hlim : limitsOk t = true) (v : Val) (n : Node)
    (hr : Impl.Repr H t v n) (op : Op) :
    Impl.apply H t n op = none ↔ applyOp t v op = none := by
  obtain ⟨hsome, hnone⟩ := step_sim H t hwf hlim v n hr op
  refine ⟨fun h => ?_, hnone⟩
  cases ha : applyOp t v op with
  | none => rfl
  | some v' =>
    obtain ⟨n', hn, _⟩ := hsome v' ha
    rw [h] at hn
    cases hn

/-- run a sequence of operations on a backing tree; a failing operation (exception in Python)
    leaves the view as it was -/
def runImpl (t : Ty) : Node → List Op → Node
  | n, [] => n
  | n, op :: ops =>
    match Impl.apply H t n op with
    | some n' => runImpl t n' ops
    | none => runImpl t n ops

/-- run a sequence of operations on a plain value; a disallowed operation is skipped -/
def runSpec (t : Ty) : Val → List Op → Val
  | v, [] => v
  | v, op :: ops =>
    match applyOp t v op with
    | some v' => runSpec t v' ops
    | none => runSpec t v ops

/-- after ANY sequence of mutations the backing tree represents exactly the value the sequence
    implies -/
theorem history_repr (t : Ty) (hwf : t.wf = true) (hlim : limitsOk t = true) (ops : List Op) :
    ∀ (v₀ : Val) (n₀ : Node), Impl.Repr H t v₀ n₀ →
      Impl.Repr H t (runSpec t v₀ ops) (runImpl H t n₀ ops) := by
  induction ops with
  | nil => intro v₀ n₀ h; exact h
  | cons op ops ih =>
    intro v₀ n₀ h
    obtain ⟨hsome, hnone⟩ := step_sim H t hwf hlim v₀ n₀ h op
    cases ha : applyOp t v₀ op with
    | none =>
      simp only [runSpec, runImpl, ha, hnone ha]
      exact ih v₀ n₀ h
    | some v' =>
      obtain ⟨n', hn, hr'⟩ := hsome v' ha
      simp only [runSpec, runImpl, ha, hn]
      exact ih v' n' hr'

/-- ... it has the spec hash tree root of that value ... -/
theorem history_root (t : Ty) (hwf : t.wf = true) (hlim : limitsOk t = true) (ops : List Op)
    (v₀ : Val) (n₀ : Node) (h : Impl.Repr H t v₀ n₀) :
    (runImpl H t n₀ ops).root H = Spec.htr H t (runSpec t v₀ ops) :=
  repr_root H t _ _ hwf (history_repr H t hwf hlim ops v₀ n₀ h)

/-- ... and reads back (through the view API) exactly that value -/
theorem history_read (t : Ty) (hwf : t.wf = true) (hlim : limitsOk t = true) (ops : List Op)
    (v₀ : Val) (n₀ : Node) (h : Impl.Repr H t v₀ n₀) :
    Impl.readVal H t (runImpl H t n₀ ops) = some (runSpec t v₀ ops) :=
  repr_read H t _ _ hwf hlim (history_repr H t hwf hlim ops v₀ n₀ h)

/-- the same starting from a constructed view: indistinguishable from a fresh value -/
theorem history_fresh (t : Ty) (hwf : t.wf = true) (hlim : limitsOk t = true) (ops : List Op)
    (v₀ : Val) (n₀ : Node) (hc : Impl.construct H t v₀ = some n₀)
    (m : Node) (hm : Impl.construct H t (runSpec t v₀ ops) = some m) :
    (runImpl H t n₀ ops).root H = m.root H ∧
      Impl.readVal H t (runImpl H t n₀ ops) = Impl.readVal H t m := by
  have h0 := construct_repr H t v₀ n₀ hwf hc
  have hm' := construct_repr H t _ m hwf hm
  constructor
  · rw [history_root H t hwf hlim ops v₀ n₀ h0, repr_root H t _ m hwf hm']
  · rw [history_read H t hwf hlim ops v₀ n₀ h0, repr_read H t _ m hwf hlim hm']

end Rmk.StepRepr
