/-
C18, `get_diff` / `leaf_iter` / `get_target_history`: grafting the reported pairs into the first tree
gives the second (`graftAll`; the statement is `C18.graft`), every reported pair differs (`getDiffPos_sound`),
`leafIter` lists the leaves left to right (`leafPaths`, `leftOf`), and the target history holds the
nodes along the path with repeated roots dropped (`ddBy`, `targetHistoryPath_spec`).
Also `Injective2`, the collision-freeness hypothesis other files share.
-/
import Rmk.Proofs.TreeLaws
namespace Rmk

abbrev DiffEntry := List Bool × Node × Node

def graftAll (H : Hash) (a : Node) (ds : List DiffEntry) : Option Node :=
  ds.foldl (fun acc d => acc.bind fun t => setPath H false t d.1 d.2.2) (some a)

theorem graftAll_nil (H : Hash) (a : Node) : graftAll H a [] = some a := rfl

theorem foldl_bind_none (H : Hash) (ds : List DiffEntry) :
    ds.foldl (fun acc d => acc.bind fun t => setPath H false t d.1 d.2.2) none = none := by
  induction ds with
  | nil => rfl
  | cons d ds ih => simpa using ih

theorem graftAll_cons (H : Hash) (a : Node) (d : DiffEntry) (ds : List DiffEntry) :
    graftAll H a (d :: ds) = (setPath H false a d.1 d.2.2).bind fun t => graftAll H t ds := by
  unfold graftAll
  simp only [List.foldl_cons, Option.bind_some]
  cases setPath H false a d.1 d.2.2 with
  | none => simpa using foldl_bind_none H ds
  | some t => rfl

theorem graftAll_append (H : Hash) (a : Node) (d1 d2 : List DiffEntry) :
    graftAll H a (d1 ++ d2) = (graftAll H a d1).bind fun t => graftAll H t d2 := by
  induction d1 generalizing a with
  | nil => simp [graftAll_nil]
  | cons d ds ih =>
    simp only [List.cons_append, graftAll_cons]
    cases setPath H false a d.1 d.2.2 with
    | none => rfl
    | some t => simpa using ih t

/-- grafting below a child: `ctx` puts the child in direction `c` back under its parent -/
theorem graftAll_map_cons (H : Hash) (c : Bool) (ctx : Node → Node)
    (hctx : ∀ t p v, setPath H false (ctx t) (c :: p) v = (setPath H false t p v).map ctx)
    (a : Node) (ds : List DiffEntry) :
    graftAll H (ctx a) (ds.map fun d => (c :: d.1, d.2.1, d.2.2)) = (graftAll H a ds).map ctx := by
  induction ds generalizing a with
  | nil => rfl
  | cons d ds ih =>
    rw [List.map_cons, graftAll_cons, graftAll_cons, hctx]
    cases setPath H false a d.1 d.2.2 with
    | none => rfl
    | some t => exact ih t

theorem bne_false_root {x y : Chunk} (h : (x != y) = false) : x = y := by
  simpa using h

theorem getDiffPos_of_root_eq (H : Hash) (a b : Node) (h : a.root H = b.root H) :
    getDiffPos H a b = [] := by
  have hb : ¬ (a.root H != b.root H) = true := fun hb => bne_iff_ne.1 hb h
  unfold getDiffPos
  split
  · exact if_neg hb
  · exact if_neg hb

theorem getDiffPos_of_isLeaf (H : Hash) (a b : Node) (hl : a.isLeaf = true ∨ b.isLeaf = true)
    (h : a.root H ≠ b.root H) : getDiffPos H a b = [([], a, b)] := by
  unfold getDiffPos
  split
  · simp [Node.isLeaf] at hl
  · exact if_pos (bne_iff_ne.2 h)

theorem getDiffPos_pair_of_ne (H : Hash) (al ar bl br : Node)
    (h : (Node.pair al ar).root H ≠ (Node.pair bl br).root H) :
    getDiffPos H (.pair al ar) (.pair bl br) =
      (getDiffPos H al bl).map (fun d => (false :: d.1, d.2.1, d.2.2)) ++
      (getDiffPos H ar br).map (fun d => (true :: d.1, d.2.1, d.2.2)) := by
  rw [getDiffPos, if_pos (bne_iff_ne.2 h)]

/-- Induction along the computation of `getDiffPos`: equal roots report nothing; differing roots
    report the pair itself unless both nodes are pairs, and then the reports of the two sides. -/
theorem getDiffPos_induct {H : Hash} {P : Node → Node → List DiffEntry → Prop}
    (same : ∀ a b, a.root H = b.root H → P a b [])
    (leaf : ∀ a b, a.isLeaf = true ∨ b.isLeaf = true → a.root H ≠ b.root H → P a b [([], a, b)])
    (pair : ∀ al ar bl br, (Node.pair al ar).root H ≠ (Node.pair bl br).root H →
      P al bl (getDiffPos H al bl) → P ar br (getDiffPos H ar br) →
      P (.pair al ar) (.pair bl br)
        ((getDiffPos H al bl).map (fun d => (false :: d.1, d.2.1, d.2.2)) ++
          (getDiffPos H ar br).map (fun d => (true :: d.1, d.2.1, d.2.2))))
    (a b : Node) : P a b (getDiffPos H a b) := by
  induction a generalizing b with
  | leaf c =>
    by_cases h : (Node.leaf c).root H = b.root H
    · rw [getDiffPos_of_root_eq H _ _ h]; exact same _ _ h
    · rw [getDiffPos_of_isLeaf H _ _ (.inl rfl) h]; exact leaf _ _ (.inl rfl) h
  | pair al ar ihl ihr =>
    by_cases h : (Node.pair al ar).root H = b.root H
    · rw [getDiffPos_of_root_eq H _ _ h]; exact same _ _ h
    · cases b with
      | leaf c => rw [getDiffPos_of_isLeaf H _ _ (.inr rfl) h]; exact leaf _ _ (.inr rfl) h
      | pair bl br => rw [getDiffPos_pair_of_ne H _ _ _ _ h]; exact pair _ _ _ _ h (ihl bl) (ihr br)

/-- `get_diff` is `getDiffPos` without the positions -/
theorem getDiff_eq_map (H : Hash) (a b : Node) :
    getDiff H a b = (getDiffPos H a b).map fun d => (d.2.1, d.2.2) := by
  fun_induction getDiff H a b with
  | case1 al ar bl br h ihl ihr =>
    rw [getDiffPos, if_pos h, ihl, ihr, List.map_append, List.map_map, List.map_map]
    rfl
  | case2 al ar bl br h => rw [getDiffPos, if_neg h]; rfl
  | case3 a b hab h =>
    rw [getDiffPos, if_pos h]
    · rfl
    · exact hab
  | case4 a b hab h =>
    rw [getDiffPos, if_neg h]
    · rfl
    · exact hab

theorem getDiff_root_eq (H : Hash) (a b : Node) (h : a.root H = b.root H) : getDiff H a b = [] := by
  rw [getDiff_eq_map, getDiffPos_of_root_eq H a b h]; rfl

/-- every reported pair sits at its position in both trees, has different roots, and one of its
    members is a leaf (it cannot be diffed deeper) -/
theorem getDiffPos_sound (H : Hash) (a b : Node) (p : List Bool) (x y : Node)
    (hm : (p, x, y) ∈ getDiffPos H a b) :
    getPath a p = some x ∧ getPath b p = some y ∧ x.root H ≠ y.root H ∧ (x.isLeaf ∨ y.isLeaf) := by
  revert p x y
  refine getDiffPos_induct (P := fun a b ds => ∀ p x y, (p, x, y) ∈ ds → getPath a p = some x ∧
    getPath b p = some y ∧ x.root H ≠ y.root H ∧ (x.isLeaf ∨ y.isLeaf)) ?_ ?_ ?_ a b
  · intro a b _ p x y hm
    cases hm
  · intro a b hl h p x y hm
    obtain ⟨rfl, rfl, rfl⟩ : p = [] ∧ x = a ∧ y = b := by simpa using hm
    exact ⟨getPath_nil _, getPath_nil _, h, hl⟩
  · intro al ar bl br _ ihl ihr p x y hm
    simp only [List.mem_append, List.mem_map, Prod.mk.injEq] at hm
    obtain ⟨d, hd, rfl, rfl, rfl⟩ | ⟨d, hd, rfl, rfl, rfl⟩ := hm
    · exact ihl _ _ _ hd
    · exact ihr _ _ _ hd

theorem getDiffPos_nonempty_of_ne (H : Hash) (a b : Node) (h : a.root H ≠ b.root H) :
    getDiffPos H a b ≠ [] := by
  revert h
  refine getDiffPos_induct (P := fun a b ds => a.root H ≠ b.root H → ds ≠ [])
    (fun _ _ h hne => absurd h hne) (fun _ _ _ _ _ => List.cons_ne_nil _ _) ?_ a b
  intro al ar bl br h ihl ihr _ hnil
  simp only [List.append_eq_nil_iff, List.map_eq_nil_iff] at hnil
  -- both sides report nothing, so (by the hypotheses for the sides) the children's roots agree
  have hl : al.root H = bl.root H := Decidable.byContradiction fun hl => ihl hl hnil.1
  have hr : ar.root H = br.root H := Decidable.byContradiction fun hr => ihr hr hnil.2
  exact h (by simp only [Node.root, hl, hr])

def leafPaths : Node → List (List Bool)
  | .leaf _ => [[]]
  | .pair l r => (leafPaths l).map (false :: ·) ++ (leafPaths r).map (true :: ·)

/-- `leaf_iter` yields exactly the nodes at the leaf paths, in that (left-to-right) order -/
theorem leafIter_eq (n : Node) : (leafIter n).map some = (leafPaths n).map (getPath n) := by
  induction n with
  | leaf c => simp [leafIter, leafPaths]
  | pair l r ihl ihr =>
    simp [leafIter, leafPaths, List.map_append, ihl, ihr, List.map_map, Function.comp_def]

/-- a path is a leaf path exactly when a leaf sits there: every leaf is listed, nothing else is -/
theorem mem_leafPaths (n : Node) (p : List Bool) : p ∈ leafPaths n ↔ ∃ c, getPath n p = some (.leaf c) := by
  induction n generalizing p with
  | leaf c => cases p <;> simp [leafPaths]
  | pair l r ihl ihr =>
    cases p with
    | nil => simp [leafPaths]
    | cons b bs => cases b <;> simp [leafPaths, ihl, ihr]

/-- lexicographic "strictly left of" on paths that diverge -/
def leftOf : List Bool → List Bool → Prop
  | a :: p, b :: q => (a = false ∧ b = true) ∨ (a = b ∧ leftOf p q)
  | _, _ => False

/-- the leaf paths are listed strictly left to right (so every leaf occurs once) -/
theorem leafPaths_sorted (n : Node) : (leafPaths n).Pairwise leftOf := by
  induction n with
  | leaf c => simp [leafPaths]
  | pair l r ihl ihr =>
    simp only [leafPaths, List.pairwise_append, List.pairwise_map]
    refine ⟨?_, ?_, ?_⟩
    · exact ihl.imp (fun h => .inr ⟨rfl, h⟩)
    · exact ihr.imp (fun h => .inr ⟨rfl, h⟩)
    · intro a ha b hb
      simp only [List.mem_map] at ha hb
      obtain ⟨a', _, rfl⟩ := ha
      obtain ⟨b', _, rfl⟩ := hb
      exact .inl ⟨rfl, rfl⟩

/-- drop consecutive repeats by key (`last` = key of the last kept element) -/
def ddBy {α K} [DecidableEq K] (key : α → K) : List α → Option K → List α
  | [], _ => []
  | x :: xs, last =>
    if last = some (key x) then ddBy key xs last else x :: ddBy key xs (some (key x))

theorem ddBy_map {α β K} [DecidableEq K] (key : β → K) (f : α → β) (l : List α) (last : Option K) :
    ddBy key (l.map f) last = (ddBy (fun a => key (f a)) l last).map f := by
  induction l generalizing last with
  | nil => rfl
  | cons x xs ih =>
    simp only [List.map_cons, ddBy]
    split <;> simp [ih]

theorem ddBy_sublist {α K} [DecidableEq K] (key : α → K) (l : List α) (last : Option K) :
    (ddBy key l last).Sublist l := by
  induction l generalizing last with
  | nil => exact .slnil
  | cons y ys ih =>
    rw [ddBy]
    split
    · exact (ih _).cons _
    · exact (ih _).cons_cons _

/-- de-duplicating by a coarser key first does not change the result of de-duplicating by a finer
    key that the coarser one determines (`z`: the element kept last by both) -/
theorem ddBy_ddBy_aux {α K1 K2} [DecidableEq K1] [DecidableEq K2] (k1 : α → K1) (k2 : α → K2)
    (l : List α) (z : α) (h : ∀ x ∈ z :: l, ∀ y ∈ z :: l, k1 x = k1 y → k2 x = k2 y) :
    ddBy k2 (ddBy k1 l (some (k1 z))) (some (k2 z)) = ddBy k2 l (some (k2 z)) := by
  induction l generalizing z with
  | nil => rfl
  | cons x xs ih =>
    have hx := ih x fun a ha b hb => h a (List.mem_cons_of_mem _ ha) b (List.mem_cons_of_mem _ hb)
    rw [ddBy, ddBy]
    by_cases h1 : k1 z = k1 x
    · -- dropped by the coarser key, hence also by the finer one
      have h2 := h z List.mem_cons_self x (List.mem_cons_of_mem _ List.mem_cons_self) h1
      have hsub := List.cons_subset_cons z (List.subset_cons_self x xs)
      rw [if_pos (congrArg some h1), if_pos (congrArg some h2)]
      exact ih z fun a ha b hb => h a (hsub ha) b (hsub hb)
    · rw [if_neg (mt Option.some.inj h1), ddBy]
      by_cases h2 : k2 z = k2 x
      · rw [if_pos (congrArg some h2), if_pos (congrArg some h2), h2]
        exact hx
      · rw [if_neg (mt Option.some.inj h2), if_neg (mt Option.some.inj h2), hx]

theorem ddBy_ddBy {α K1 K2} [DecidableEq K1] [DecidableEq K2] (k1 : α → K1) (k2 : α → K2)
    (l : List α) (h : ∀ x ∈ l, ∀ y ∈ l, k1 x = k1 y → k2 x = k2 y) :
    ddBy k2 (ddBy k1 l none) none = ddBy k2 l none := by
  cases l with
  | nil => rfl
  | cons x xs =>
    simp only [ddBy, reduceCtorEq, if_false]
    rw [ddBy_ddBy_aux k1 k2 xs x h]

/-- collision-freeness of the pair hash (an explicit hypothesis wherever it is needed) -/
def Injective2 (H : Hash) : Prop := ∀ a b c d, H a b = H c d → a = c ∧ b = d

/-- with a collision-free hash, equal roots of two trees in which the path `p` exists imply equal
    roots at `p` -/
theorem root_getPath_of_root_eq (H : Hash) (hH : Injective2 H) (p : List Bool) (a b x y : Node)
    (hr : a.root H = b.root H) (ha : getPath a p = some x) (hb : getPath b p = some y) :
    x.root H = y.root H := by
  induction p generalizing a b with
  | nil =>
    rw [getPath_nil] at ha hb
    cases ha
    cases hb
    exact hr
  | cons c cs ih =>
    cases a with
    | leaf _ => cases ha
    | pair al ar =>
      cases b with
      | leaf _ => cases hb
      | pair bl br =>
        obtain ⟨h1, h2⟩ := hH _ _ _ _ hr
        cases c
        · exact ih al bl h1 ha hb
        · exact ih ar br h2 ha hb

abbrev rootKey (H : Hash) (e : Nat × Node) : Chunk := e.2.root H

/-- the node one level of `get_target_history` looks at: the entry itself, or its child -/
def childOpt : Option Bool → Node → Option Node
  | none, n => some n
  | some true, n => getRight n
  | some false, n => getLeft n

theorem historyLevel_cons (H : Hash) (dir : Option Bool) (k : Nat) (n c : Node)
    (rest : List (Nat × Node)) (last : Option Chunk) (hc : childOpt dir n = some c) :
    historyLevel H dir ((k, n) :: rest) last =
      if last == some (rootKey H (k, c)) then historyLevel H dir rest last
      else (historyLevel H dir rest (some (rootKey H (k, c)))).map fun t => (k, c) :: t := by
  cases dir with
  | none => cases hc; rfl
  | some b =>
    cases n with
    | leaf x => cases b <;> cases hc
    | pair l r => cases b <;> cases hc <;> rfl

/-- one level of `get_target_history` when the node looked at exists in every entry (`sel` picks
    it): map, then drop repeats -/
theorem historyLevel_eq (H : Hash) (dir : Option Bool) (sel : Node → Node)
    (hist : List (Nat × Node)) (last : Option Chunk)
    (hc : ∀ e ∈ hist, childOpt dir e.2 = some (sel e.2)) :
    historyLevel H dir hist last =
      some (ddBy (rootKey H) (hist.map fun e => (e.1, sel e.2)) last) := by
  induction hist generalizing last with
  | nil => rfl
  | cons e es ih =>
    have ih' := fun l => ih l (fun x hx => hc x (List.mem_cons_of_mem _ hx))
    obtain ⟨k, n⟩ := e
    rw [historyLevel_cons H dir k n _ es last (hc _ List.mem_cons_self), List.map_cons, ddBy]
    by_cases hl : last = some (rootKey H (k, sel n))
    · rw [if_pos (beq_iff_eq.2 hl), if_pos hl, ih']
    · rw [if_neg (mt beq_iff_eq.1 hl), if_neg hl, ih']; rfl

/-- the child of a node in direction `b`, total version (the node itself when there is none) -/
def childD (b : Bool) (n : Node) : Node :=
  match n with
  | .pair l r => if b then r else l
  | .leaf c => .leaf c

def atD (p : List Bool) (n : Node) : Node := (getPath n p).getD n

/-- a node in which the path `b :: bs` exists: its child in direction `b`, and the rest of the path -/
theorem atD_cons {n : Node} {b : Bool} {bs : List Bool} (h : (getPath n (b :: bs)).isSome) :
    childOpt (some b) n = some (childD b n) ∧ (getPath (childD b n) bs).isSome ∧
      atD (b :: bs) n = atD bs (childD b n) := by
  cases n with
  | leaf c => cases h
  | pair l r =>
    obtain ⟨v, hv⟩ := Option.isSome_iff_exists.1 h
    cases b
    · exact ⟨rfl, h, by rw [atD, hv, atD, show getPath (childD false (.pair l r)) bs = some v from hv]; rfl⟩
    · exact ⟨rfl, h, by rw [atD, hv, atD, show getPath (childD true (.pair l r)) bs = some v from hv]; rfl⟩

/-- `get_target_history`: with a collision-free hash and when every lookup succeeds, the changelog
    is the per-entry lookup with consecutive repeats (by root) dropped, keyed by first occurrence -/
theorem targetHistoryPath_spec (H : Hash) (hH : Injective2 H) (p : List Bool) (hist : List (Nat × Node))
    (hl : ∀ e ∈ hist, (getPath e.2 p).isSome) :
    targetHistoryPath H hist p =
      some (ddBy (rootKey H) (hist.map fun e => (e.1, atD p e.2)) none) := by
  induction p generalizing hist with
  | nil =>
    exact historyLevel_eq H none (atD []) hist none (fun e _ => by rw [atD, getPath_nil]; rfl)
  | cons b bs ih =>
    have hstep := fun e he => atD_cons (hl e he)
    rw [targetHistoryPath, historyLevel_eq H (some b) (childD b) hist none (fun e he => (hstep e he).1)]
    obtain ⟨hist1, hdef⟩ : ∃ h1 : List (Nat × Node), h1 = hist.map fun e => (e.1, childD b e.2) := ⟨_, rfl⟩
    have h1 : ∀ e ∈ hist1, (getPath e.2 bs).isSome :=
      hdef ▸ List.forall_mem_map.2 fun e he => (hstep e he).2.1
    have hcomp : (hist.map fun e => (e.1, atD (b :: bs) e.2)) = hist1.map fun e => (e.1, atD bs e.2) := by
      rw [hdef, List.map_map]
      exact List.map_congr_left fun e he => by rw [(hstep e he).2.2]; rfl
    rw [← hdef]
    dsimp only
    rw [ih _ (fun e he => h1 e ((ddBy_sublist _ _ _).subset he)), hcomp, ddBy_map, ddBy_map]
    congr 2
    apply ddBy_ddBy
    intro x hx y hy hxy
    obtain ⟨xv, hxv⟩ := Option.isSome_iff_exists.1 (h1 x hx)
    obtain ⟨yv, hyv⟩ := Option.isSome_iff_exists.1 (h1 y hy)
    have := root_getPath_of_root_eq H hH bs x.2 y.2 xv yv hxy hxv hyv
    simpa [rootKey, atD, hxv, hyv] using this

/-- a non-empty history has a non-empty changelog (its first entry is always kept) -/
theorem ddBy_none_ne_nil {α K} [DecidableEq K] (key : α → K) (l : List α) (h : l ≠ []) :
    ddBy key l none ≠ [] := by
  cases l with
  | nil => exact absurd rfl h
  | cons x xs => simp [ddBy]

end Rmk
