/-
C12: default trees are the SSZ zero values.
`Impl.defaultNode H t` exists for every well-formed type, its root is `htr` of `Spec.zeroVal t`,
the zero value is well typed, and reading the default tree back through the view API gives the zero
value.  All but existence and reading are instances of the `Repr` lemmas at `default_repr`.
-/
import Rmk.Proofs.BytesLemmas
import Rmk.Proofs.ChunkTree
import Rmk.Proofs.ListRel
import Rmk.Proofs.Merkle
import Rmk.Proofs.Merkleize
import Rmk.Proofs.ReprBasics
import Rmk.Proofs.TypeLemmas
namespace Rmk.DefaultNode
open Rmk Rmk.Impl Rmk.Spec
open Rmk.ChunkTreeLemmas

theorem fillToLength_getDepth_isSome (H : Hash) (bottom : Node) (len : Nat) :
    (fillToLength H bottom (getDepth len) len).isSome = true :=
  (fillToLength_isSome_iff H bottom _ len).2 (two_pow_getDepth len)

mutual
theorem default_isSome (H : Hash) (t : Ty) (hwf : t.wf = true) :
    (defaultNode H t).isSome = true := by
  cases t with
  | uint nb => rfl
  | bool => rfl
  | bitvector n => exact fillToLength_getDepth_isSome H _ _
  | bitlist lim => rfl
  | bytevector n => exact fillToLength_getDepth_isSome H _ _
  | bytelist lim => rfl
  | vector t n =>
    rw [defaultNode]
    split
    · exact fillToLength_getDepth_isSome H _ _
    · obtain ⟨e, he⟩ := Option.isSome_iff_exists.1 (default_isSome H t (Ty.wf_vector hwf).2)
      rw [he]
      exact fillToLength_getDepth_isSome H _ _
  | list t lim => rfl
  | container fs =>
    have hwf := (Ty.wf_container hwf).2
    obtain ⟨ns, hns⟩ := Option.isSome_iff_exists.1 (defaultNodes_isSome H fs hwf)
    rw [defaultNode, hns, fillToContents_isSome_iff,
      (ReprBasics.reprFields_length (ReprBasics.defaultNodes_repr H fs ns hwf hns)).2]
    exact two_pow_getDepth _
  | union hasNone opts =>
    cases hasNone with
    | true => rfl
    | false =>
      have hw := Ty.wf_union hwf
      obtain ⟨c, hc⟩ := Option.isSome_iff_exists.1 (defaultNodeHead_isSome H opts hw.2 hw.1)
      rw [defaultNode, hc]
      rfl

theorem defaultNodes_isSome (H : Hash) (fs : List Ty) (hwf : Ty.wfList fs = true) :
    (defaultNodes H fs).isSome = true := by
  cases fs with
  | nil => rfl
  | cons t ts =>
    have hwf := Ty.wfList_cons hwf
    obtain ⟨n, hn⟩ := Option.isSome_iff_exists.1 (default_isSome H t hwf.1)
    obtain ⟨ns, hns⟩ := Option.isSome_iff_exists.1 (defaultNodes_isSome H ts hwf.2)
    rw [defaultNodes, hn, hns]
    rfl

theorem defaultNodeHead_isSome (H : Hash) (opts : List Ty) (hwf : Ty.wfList opts = true)
    (hne : opts ≠ []) : (defaultNodeHead H opts).isSome = true := by
  cases opts with
  | nil => exact absurd rfl hne
  | cons t ts => exact default_isSome H t (Ty.wfList_cons hwf).1
end

/-- `WT` does not mention a hash, so it is read off `Repr` of the default node under any one hash -/
theorem zeroVal_wt (t : Ty) (hwf : t.wf = true) : WT t (zeroVal t) = true := by
  let H : Hash := fun a _ => a
  obtain ⟨n, hn⟩ := Option.isSome_iff_exists.1 (default_isSome H t hwf)
  exact ReprBasics.repr_wt H t _ n (ReprBasics.default_repr H t n hwf hn)

theorem zeroVals_wt (fs : List Ty) (hwf : Ty.wfList fs = true) : WTs fs (zeroVals fs) = true := by
  let H : Hash := fun a _ => a
  obtain ⟨ns, hns⟩ := Option.isSome_iff_exists.1 (defaultNodes_isSome H fs hwf)
  exact ReprBasics.reprFields_wt H fs _ ns (ReprBasics.defaultNodes_repr H fs ns hwf hns)

theorem zeroValHead_wt (opts : List Ty) (hwf : Ty.wfList opts = true) (hne : opts ≠ []) :
    WTopt opts 0 (zeroValHead opts) = true := by
  let H : Hash := fun a _ => a
  obtain ⟨c, hc⟩ := Option.isSome_iff_exists.1 (defaultNodeHead_isSome H opts hwf hne)
  exact ReprBasics.reprOpt_wt H opts 0 _ c (ReprBasics.defaultNodeHead_repr H opts c hwf hc)

theorem zeroNode_root (H : Hash) (d : Nat) : (zeroNode H d).root H = zeroHash H d :=
  Rmk.zeroNode_root H d

theorem default_root (H : Hash) (t : Ty) (hwf : t.wf = true) (n : Node)
    (h : defaultNode H t = some n) : n.root H = htr H t (zeroVal t) :=
  ReprBasics.repr_root H t _ n hwf (ReprBasics.default_repr H t n hwf h)

theorem defaultNodes_root (H : Hash) (fs : List Ty) (hwf : Ty.wfList fs = true) (ns : List Node)
    (h : defaultNodes H fs = some ns) :
    ns.map (·.root H) = htrFields H fs (zeroVals fs) :=
  ReprBasics.reprFields_root H fs _ ns hwf (ReprBasics.defaultNodes_repr H fs ns hwf h)

theorem defaultNodeHead_root (H : Hash) (opts : List Ty) (hwf : Ty.wfList opts = true) (c : Node)
    (h : defaultNodeHead H opts = some c) :
    c.root H = htrOpt H opts 0 (zeroValHead opts) :=
  ReprBasics.reprOpt_root H opts 0 _ c hwf (ReprBasics.defaultNodeHead_repr H opts c hwf h)

theorem getAt_fillToLength (H : Hash) (bottom : Node) (d len : Nat) (n : Node)
    (h : fillToLength H bottom d len = some n) (i : Nat) (hi : i < len) :
    getAt n i d = some bottom := by
  have := ct_get (ct_fillToLength h) (i := i) (by simpa using hi)
  simpa using this

theorem getAt_fillToContents (H : Hash) (d : Nat) (ns : List Node) (n : Node)
    (h : fillToContents H ns d = some n) (i : Nat) (hi : i < ns.length) :
    getAt n i d = ns[i]? := by
  rw [ct_get (ct_fill h) hi, List.getElem?_eq_getElem hi]

theorem readLen_zero (H : Hash) : readLen H (zeroNode H 0) = 0 :=
  fromLE_zeros 32

/-- a union node whose selector leaf is zero reads as option 0 -/
theorem readVal_union_zero (H : Hash) (hn : Bool) (opts : List Ty) (c : Node)
    (h0 : 0 < optCount hn opts) :
    readVal H (.union hn opts) (.pair c (zeroNode H 0)) =
      if hn = true then (if c.root H == zeroChunk then some (.un 0 .none) else none)
      else (readOpt H opts 0 c).map fun v => .un 0 v := by
  rw [readVal]
  simp only [getLeft, getRight, readLen_zero, if_neg (Nat.not_le.2 h0)]
  cases hn <;> rfl

/-- Where no list limit occurs (or all are below `2^256`), reading is an instance of `repr_read`. -/
theorem default_read_of_limitsOk (H : Hash) (t : Ty) (hwf : t.wf = true)
    (hl : ReprBasics.limitsOk t = true) (n : Node) (h : defaultNode H t = some n) :
    readVal H t n = some (zeroVal t) :=
  ReprBasics.repr_read H t _ n hwf hl (ReprBasics.default_repr H t n hwf h)

mutual
theorem default_read (H : Hash) (t : Ty) (hwf : t.wf = true) (n : Node)
    (h : defaultNode H t = some n) : readVal H t n = some (zeroVal t) := by
  cases t with
  | uint nb => exact default_read_of_limitsOk H _ hwf rfl n h
  | bool => exact default_read_of_limitsOk H _ hwf rfl n h
  | bitvector len => exact default_read_of_limitsOk H _ hwf rfl n h
  | bytevector len => exact default_read_of_limitsOk H _ hwf rfl n h
  -- a list limit may exceed `2^256`, where `repr_read` does not apply; the stored length is 0
  | bitlist lim =>
    cases h
    simp [readVal, zeroVal, listLength, getRight, readLen_zero, allSome]
  | bytelist lim =>
    cases h
    simp [readVal, zeroVal, getLeft, getRight, readLen_zero, readChunks, allSome]
  | vector et len =>
    by_cases hb : et.isBasic = true
    · have hl : ReprBasics.limitsOk et = true := by cases et <;> first | rfl | cases hb
      exact default_read_of_limitsOk H _ hwf hl n h
    · have hwf := (Ty.wf_vector hwf).2
      obtain ⟨e, he⟩ := Option.isSome_iff_exists.1 (default_isSome H et hwf)
      rw [defaultNode, if_neg hb, he] at h
      have key := allSome_range_getElem (List.replicate len (zeroVal et))
        (fun i => (getAt n i (getDepth len)).bind fun c => readVal H et c) fun i hi => by
          rw [getAt_fillToLength H _ _ _ n h i (by rwa [List.length_replicate] at hi),
            List.getElem_replicate]
          exact default_read H et hwf e he
      rw [List.length_replicate] at key
      rw [readVal, if_neg hb, ReprBasics.chunkLen_nonbasic et len hb, key]
      rfl
  | list et lim =>
    cases h
    simp [readVal, zeroVal, listLength, getRight, readLen_zero, allSome]
  | container fs =>
    have hwf := (Ty.wf_container hwf).2
    obtain ⟨ns, hns⟩ := Option.isSome_iff_exists.1 (defaultNodes_isSome H fs hwf)
    rw [defaultNode, hns] at h
    rw [readVal, readFields_default H fs hwf ns hns n (getDepth fs.length) 0
      (fun i hi => by rw [Nat.zero_add]; exact getAt_fillToContents H _ ns n h i hi)]
    rfl
  | union hasNone opts =>
    have hw := Ty.wf_union hwf
    cases hasNone with
    | true =>
      cases h
      rw [readVal_union_zero H true opts _ (Nat.add_pos_left Nat.one_pos _), if_pos rfl]
      exact if_pos (beq_self_eq_true _)
    | false =>
      obtain ⟨c, hc⟩ := Option.isSome_iff_exists.1 (defaultNodeHead_isSome H opts hw.2 hw.1)
      rw [defaultNode, hc] at h
      cases h
      rw [readVal_union_zero H false opts c (Nat.add_pos_right _ (List.length_pos_iff.2 hw.1)),
        if_neg Bool.false_ne_true, readOpt_default H opts hw.2 c hc]
      rfl

theorem readFields_default (H : Hash) (ts : List Ty) (hwf : Ty.wfList ts = true) (ns : List Node)
    (h : defaultNodes H ts = some ns) (n : Node) (depth k : Nat)
    (hget : ∀ i, i < ns.length → getAt n (k + i) depth = ns[i]?) :
    readFields H ts n depth k = some (zeroVals ts) := by
  cases ts with
  | nil => rfl
  | cons t ts =>
    obtain ⟨m, ms, rfl, h1, h2⟩ := ReprBasics.defaultNodes_cons_some H h
    have hwf := Ty.wfList_cons hwf
    obtain ⟨h0, hs⟩ := ReprBasics.getAt_cons_shift hget
    rw [readFields, h0, Option.bind_some, default_read H t hwf.1 m h1,
      readFields_default H ts hwf.2 ms h2 n depth (k + 1) hs]
    rfl

theorem readOpt_default (H : Hash) (opts : List Ty) (hwf : Ty.wfList opts = true) (c : Node)
    (h : defaultNodeHead H opts = some c) :
    readOpt H opts 0 c = some (zeroValHead opts) := by
  cases opts with
  | nil => cases h
  | cons t ts => exact default_read H t (Ty.wfList_cons hwf).1 c h
end

theorem default_eq_construct_root (H : Hash) (t : Ty) (hwf : t.wf = true) (n m : Node)
    (hc : construct H t (zeroVal t) = some m) (hd : defaultNode H t = some n) :
    n.root H = m.root H :=
  ReprBasics.default_root_eq_of_repr H t n m hwf hd (ReprBasics.construct_repr H t _ m hwf hc)

end Rmk.DefaultNode
