/-
Laws of the pure tree layer (Rmk/Model/Tree.lean); `getter` / `setter` / `summarizeInto` are the path
operations on the bits of an index.
-/
import Rmk.Model.Tree
namespace Rmk
open Node

@[simp] theorem getPath_nil (n : Node) : getPath n [] = some n := by
  cases n <;> rfl

@[simp] theorem getPath_leaf_cons (c : Chunk) (b : Bool) (bs : List Bool) :
    getPath (.leaf c) (b :: bs) = none := rfl

@[simp] theorem getPath_pair_cons (l r : Node) (b : Bool) (bs : List Bool) :
    getPath (.pair l r) (b :: bs) = if b then getPath r bs else getPath l bs := rfl

theorem getPath_pair_cons_child (l r : Node) (b : Bool) (bs : List Bool) :
    getPath (.pair l r) (b :: bs) = getPath (if b then r else l) bs := by
  cases b <;> rfl

theorem getPath_singleton (n : Node) (b : Bool) : getPath n [b] = if b then getRight n else getLeft n := by
  cases n with
  | leaf c => cases b <;> rfl
  | pair l r => rw [getPath_pair_cons, getPath_nil, getPath_nil]; rfl

theorem getPath_append (n : Node) (p q : List Bool) :
    getPath n (p ++ q) = (getPath n p).bind (fun m => getPath m q) := by
  induction p generalizing n with
  | nil => simp
  | cons b bs ih =>
    cases n with
    | leaf c => simp
    | pair l r => cases b <;> simp [ih]

theorem getPath_snoc_true (n : Node) (p : List Bool) :
    getPath n (p ++ [true]) = (getPath n p).bind getRight := by
  rw [getPath_append]
  cases getPath n p with
  | none => rfl
  | some m => cases m <;> simp [getRight]

@[simp] theorem setPath_nil (H : Hash) (e : Bool) (n v : Node) : setPath H e n [] v = some v := by
  cases n <;> rfl

@[simp] theorem setPath_pair_cons (H : Hash) (e : Bool) (l r v : Node) (b : Bool) (bs : List Bool) :
    setPath H e (.pair l r) (b :: bs) v =
      if b then (setPath H e r bs v).map (fun r' => .pair l r')
      else (setPath H e l bs v).map (fun l' => .pair l' r) := rfl

@[simp] theorem setPath_leaf_cons (H : Hash) (e : Bool) (c : Chunk) (v : Node) (b : Bool) (bs : List Bool) :
    setPath H e (.leaf c) (b :: bs) v =
      if e && c == zeroHash H (bs.length + 1) then some (expandSet H (b :: bs) v) else none := rfl

theorem getPath_expandSet (H : Hash) (p : List Bool) (v : Node) :
    getPath (expandSet H p v) p = some v := by
  induction p with
  | nil => simp [expandSet]
  | cons b bs ih => cases b <;> simp [expandSet, ih]

theorem getPath_setPath_same (H : Hash) (e : Bool) (n : Node) (p : List Bool) (v n' : Node)
    (h : setPath H e n p v = some n') : getPath n' p = some v := by
  induction p generalizing n n' with
  | nil =>
    rw [setPath_nil] at h
    cases h
    exact getPath_nil v
  | cons b bs ih =>
    cases n with
    | leaf c =>
      simp at h
      obtain ⟨_, rfl⟩ := h
      exact getPath_expandSet H (b :: bs) v
    | pair l r =>
      cases b <;> obtain ⟨m, hm, rfl⟩ := Option.map_eq_some_iff.1 h
      · exact ih l m hm
      · exact ih r m hm

/-- two paths diverge: neither is a prefix of the other -/
def diverge : List Bool → List Bool → Bool
  | a :: p, b :: q => if a == b then diverge p q else true
  | _, _ => false

/-- get-after-set at a diverging position (no expansion): unchanged. -/
theorem getPath_setPath_diverge (H : Hash) (n : Node) (p q : List Bool) (v n' : Node)
    (h : setPath H false n p v = some n') (hd : diverge p q = true) :
    getPath n' q = getPath n q := by
  induction p generalizing n n' q with
  | nil => cases q <;> cases hd
  | cons b bs ih =>
    cases q with
    | nil => cases hd
    | cons c cs =>
      cases n with
      | leaf x => cases h
      | pair l r =>
        -- the written child is read only if the first bits agree, and then the tails diverge
        cases b <;> obtain ⟨m, hm, rfl⟩ := Option.map_eq_some_iff.1 h <;> cases c
        · exact ih l cs m hm hd
        · rfl
        · rfl
        · exact ih r cs m hm hd

/-- get-after-set below the written position: navigation continues inside the written node. -/
theorem getPath_setPath_below (H : Hash) (e : Bool) (n : Node) (p r : List Bool) (v n' : Node)
    (h : setPath H e n p v = some n') : getPath n' (p ++ r) = getPath v r := by
  rw [getPath_append, getPath_setPath_same H e n p v n' h]; rfl

/-- get-after-set above the written position: the old subtree with the write applied inside it. -/
theorem getPath_setPath_above (H : Hash) (n : Node) (q r : List Bool) (v n' : Node)
    (h : setPath H false n (q ++ r) v = some n') :
    getPath n' q = (getPath n q).bind (fun m => setPath H false m r v) := by
  induction q generalizing n n' with
  | nil => simp at h ⊢; exact h.symm
  | cons b bs ih =>
    cases n with
    | leaf x => cases h
    | pair l rr =>
      cases b <;> obtain ⟨m, hm, rfl⟩ := Option.map_eq_some_iff.1 h
      · exact ih l m hm
      · exact ih rr m hm

theorem setPath_isSome_iff (H : Hash) (n : Node) (p : List Bool) (v : Node) :
    (setPath H false n p v).isSome = (getPath n p).isSome := by
  induction p generalizing n with
  | nil => simp
  | cons b bs ih =>
    cases n with
    | leaf c => simp
    | pair l r => cases b <;> simp [ih]

theorem setPath_expand_of_get (H : Hash) (n : Node) (p : List Bool) (v m : Node)
    (hg : getPath n p = some m) : setPath H true n p v = setPath H false n p v := by
  induction p generalizing n with
  | nil => simp
  | cons b bs ih =>
    cases n with
    | leaf c => simp at hg
    | pair l r => cases b <;> simp at hg <;> simp [ih _ hg]

/-- root of `n` with the root at position `p` replaced by `c`, computed from sibling roots only -/
def rootWith (H : Hash) : Node → List Bool → Chunk → Chunk
  | _, [], c => c
  | .pair l r, b :: bs, c =>
    if b then H (l.root H) (rootWith H r bs c) else H (rootWith H l bs c) (r.root H)
  | .leaf x, _ :: _, _ => x

/-- the root after a write is the from-scratch recomputation along the path -/
theorem setPath_root (H : Hash) (n : Node) (p : List Bool) (v n' : Node)
    (h : setPath H false n p v = some n') : n'.root H = rootWith H n p (v.root H) := by
  induction p generalizing n n' with
  | nil => simp at h; subst h; cases n <;> rfl
  | cons b bs ih =>
    cases n with
    | leaf x => cases h
    | pair l r =>
      cases b <;> obtain ⟨m, hm, rfl⟩ := Option.map_eq_some_iff.1 h
      · exact congrArg (H · (r.root H)) (ih l m hm)
      · exact congrArg (H (l.root H)) (ih r m hm)

/-- writing back a node with the root that is already there does not change the root -/
theorem rootWith_self (H : Hash) (n : Node) (p : List Bool) (m : Node)
    (hg : getPath n p = some m) : rootWith H n p (m.root H) = n.root H := by
  induction p generalizing n with
  | nil => simp at hg; subst hg; cases n <;> rfl
  | cons b bs ih =>
    cases n with
    | leaf x => simp at hg
    | pair l r => cases b <;> simp at hg <;> simp [rootWith, Node.root, ih _ hg]

/-- `m` is `n` with some zero-subtree summaries materialised (one or more levels) -/
inductive Expands (H : Hash) : Node → Node → Prop
  | refl (n : Node) : Expands H n n
  | zero (d : Nat) (a b : Node) : Expands H (zeroNode H d) a → Expands H (zeroNode H d) b →
      Expands H (zeroNode H (d + 1)) (.pair a b)
  | pair (l r l' r' : Node) : Expands H l l' → Expands H r r' → Expands H (.pair l r) (.pair l' r')

theorem Expands.root_eq {H : Hash} {n m : Node} (h : Expands H n m) : m.root H = n.root H := by
  induction h with
  | refl n => rfl
  | zero d a b _ _ iha ihb => simp [Node.root, iha, ihb, zeroNode, zeroHash]
  | pair l r l' r' _ _ ihl ihr => simp [Node.root, ihl, ihr]

theorem expands_expandSet (H : Hash) (p : List Bool) :
    Expands H (zeroNode H p.length) (expandSet H p (zeroNode H 0)) := by
  induction p with
  | nil => exact .refl _
  | cons b bs ih =>
    cases b
    · simp only [expandSet, List.length_cons]
      exact .zero _ _ _ ih (.refl _)
    · simp only [expandSet, List.length_cons]
      exact .zero _ _ _ (.refl _) ih

theorem setPath_expandSet (H : Hash) (e : Bool) (p : List Bool) (x v : Node) :
    setPath H e (expandSet H p x) p v = some (expandSet H p v) := by
  induction p with
  | nil => simp [expandSet]
  | cons b bs ih => cases b <;> simp [expandSet, ih]

/-- A write with expansion equals the plain write on the tree in which the zero summaries on the
    path have been materialised. -/
theorem setPath_expand (H : Hash) (n : Node) (p : List Bool) (v n' : Node)
    (h : setPath H true n p v = some n') :
    ∃ m, Expands H n m ∧ setPath H false m p v = some n' := by
  induction p generalizing n n' with
  | nil => simp at h; subst h; exact ⟨n, .refl _, by simp⟩
  | cons b bs ih =>
    cases n with
    | leaf c =>
      simp at h
      obtain ⟨hc, rfl⟩ := h
      subst hc
      refine ⟨expandSet H (b :: bs) (zeroNode H 0), ?_, setPath_expandSet H false (b :: bs) _ v⟩
      have := expands_expandSet H (b :: bs)
      simpa [zeroNode] using this
    | pair l r =>
      cases b <;> obtain ⟨c', hc', rfl⟩ := Option.map_eq_some_iff.1 h
      · obtain ⟨m, hm, hs⟩ := ih l c' hc'
        exact ⟨.pair m r, .pair _ _ _ _ hm (.refl _), by simp [hs]⟩
      · obtain ⟨m, hm, hs⟩ := ih r c' hc'
        exact ⟨.pair l m, .pair _ _ _ _ (.refl _) hm, by simp [hs]⟩

/-- A leaf above the target that is not the zero summary of its height is never discarded:
    the write fails. -/
theorem setPath_expand_nonzero (H : Hash) (n : Node) (q r : List Bool) (b : Bool) (c : Chunk) (v : Node)
    (hg : getPath n q = some (.leaf c)) (hc : c ≠ zeroHash H (r.length + 1)) :
    setPath H true n (q ++ b :: r) v = none := by
  induction q generalizing n with
  | nil =>
    simp at hg; subst hg
    simp [hc]
  | cons a as ih =>
    cases n with
    | leaf x => simp at hg
    | pair l rr => cases a <;> simp at hg <;> simp [ih _ hg]

/-- `a` is `b` with some subtrees replaced by bare summaries (leaves) of their roots -/
inductive Summ (H : Hash) : Node → Node → Prop
  | refl (n : Node) : Summ H n n
  | leaf (b : Node) : Summ H (.leaf (b.root H)) b
  | pair (l r l' r' : Node) : Summ H l l' → Summ H r r' → Summ H (.pair l r) (.pair l' r')

theorem Summ.root_eq {H : Hash} {a b : Node} (h : Summ H a b) : a.root H = b.root H := by
  induction h with
  | refl n => rfl
  | leaf b => rfl
  | pair l r l' r' _ _ ihl ihr => simp [Node.root, ihl, ihr]

theorem Summ.trans {H : Hash} {a b c : Node} (h1 : Summ H a b) (h2 : Summ H b c) : Summ H a c := by
  induction h1 generalizing c with
  | refl n => exact h2
  | leaf b => rw [h2.root_eq]; exact .leaf c
  | pair l r l' r' _ _ ihl ihr =>
    cases h2 with
    | refl _ => exact .pair _ _ _ _ (ihl (.refl _)) (ihr (.refl _))
    | pair _ _ l'' r'' hl hr => exact .pair _ _ _ _ (ihl hl) (ihr hr)

/-- a read that succeeds on the partial tree succeeds on the complete tree with a related result -/
theorem Summ.getPath {H : Hash} {a b : Node} (h : Summ H a b) (p : List Bool) (x : Node)
    (hg : getPath a p = some x) : ∃ y, Rmk.getPath b p = some y ∧ Summ H x y := by
  induction p generalizing a b with
  | nil => simp at hg; subst hg; exact ⟨b, by simp, h⟩
  | cons c cs ih =>
    cases h with
    | refl _ => exact ⟨x, hg, .refl _⟩
    | leaf _ => simp at hg
    | pair l r l' r' hl hr =>
      cases c <;> simp at hg ⊢
      · exact ih hl hg
      · exact ih hr hg

/-- a write (without expansion) that succeeds on the partial tree succeeds on the complete tree,
    and the results are again related (so their roots are equal) -/
theorem Summ.setPath {H : Hash} {a b : Node} (h : Summ H a b) (p : List Bool) (v a' : Node)
    (hs : setPath H false a p v = some a') :
    ∃ b', Rmk.setPath H false b p v = some b' ∧ Summ H a' b' := by
  induction p generalizing a b a' with
  | nil => simp at hs; subst hs; exact ⟨v, by simp, .refl _⟩
  | cons c cs ih =>
    cases h with
    | refl _ => exact ⟨a', hs, .refl _⟩
    | leaf _ => simp at hs
    | pair l r l' r' hl hr =>
      cases c <;> obtain ⟨m, hm, rfl⟩ := Option.map_eq_some_iff.1 hs
      · obtain ⟨b2, hb2, hsum⟩ := ih hl m hm
        exact ⟨.pair b2 r', by simp [hb2], .pair _ _ _ _ hsum hr⟩
      · obtain ⟨b2, hb2, hsum⟩ := ih hr m hm
        exact ⟨.pair l' b2, by simp [hb2], .pair _ _ _ _ hl hsum⟩

theorem setPath_leaf_root_summ (H : Hash) (n : Node) (p : List Bool) (x m : Node)
    (hg : getPath n p = some x) (hs : setPath H false n p (.leaf (x.root H)) = some m) : Summ H m n := by
  induction p generalizing n m with
  | nil => simp at hg hs; subst hg; subst hs; exact .leaf _
  | cons b bs ih =>
    cases n with
    | leaf c => simp at hg
    | pair l r =>
      cases b <;> obtain ⟨m', hm, rfl⟩ := Option.map_eq_some_iff.1 hs
      · exact .pair _ _ _ _ (ih l m' hg hm) (.refl _)
      · exact .pair _ _ _ _ (.refl _) (ih r m' hg hm)

/-- `summarize_into` yields a summarised version of the same tree (hence the same root) -/
theorem summarizePath_summ (H : Hash) (n : Node) (p : List Bool) (m : Node)
    (h : summarizePath H n p = some m) : Summ H m n := by
  unfold summarizePath at h
  cases hg : getPath n p with
  | none => simp [hg] at h
  | some x =>
    simp [hg] at h
    exact setPath_leaf_root_summ H n p x m hg h

/-! The operations by generalized index refuse index 0 and otherwise act on the bit path of the index. -/

theorem getter_of_ne {g : Nat} (n : Node) (hg : g ≠ 0) : getter n g = getPath n (gbits g) := if_neg hg

theorem setter_eq_some {H : Hash} {n : Node} {g : Nat} {e : Bool} {v n' : Node} :
    setter H n g e v = some n' ↔ g ≠ 0 ∧ setPath H e n (gbits g) v = some n' :=
  Option.ite_none_left_eq_some

theorem summarizeInto_eq_some {H : Hash} {n : Node} {g : Nat} {m : Node} :
    summarizeInto H n g = some m ↔ g ≠ 0 ∧ summarizePath H n (gbits g) = some m :=
  Option.ite_none_left_eq_some

/-- too many nodes raises -/
theorem fillToContents_none (H : Hash) (nodes : List Node) (d : Nat) (h : nodes.length > 2 ^ d) :
    fillToContents H nodes d = none := by
  unfold fillToContents
  rw [if_neg (Nat.ne_of_gt (Nat.lt_trans (Nat.two_pow_pos d) h)), if_pos h]

theorem fillToContents_nil (H : Hash) (d : Nat) : fillToContents H [] d = some (zeroNode H d) := by
  unfold fillToContents
  rfl

/-- One equation for every positive depth.  It covers the code's special case for depth 1, and its
    shortcut for data that fits the left half: there the right half is `fillToContents [] d`, the
    zero summary. -/
theorem fillToContents_succ (H : Hash) {nodes : List Node} (d : Nat) (hne : nodes ≠ [])
    (hle : nodes.length ≤ 2 ^ (d + 1)) :
    fillToContents H nodes (d + 1) =
      (fillToContents H (nodes.take (2 ^ d)) d).bind fun l =>
        (fillToContents H (nodes.drop (2 ^ d)) d).map (.pair l) := by
  cases d with
  | zero =>
    match nodes, hne, hle with
    | [a], _, _ => rfl
    | [a, b], _, _ => rfl
    | _ :: _ :: _ :: _, _, h => simp at h
  | succ d =>
    rw [fillToContents, if_neg (mt List.length_eq_zero_iff.1 hne), if_neg (Nat.not_lt.2 hle)]
    · by_cases h : nodes.length ≤ 2 ^ (d + 1)
      · rw [List.take_of_length_le h, List.drop_of_length_le h, fillToContents_nil]
        simp only [if_pos h]
        cases fillToContents H nodes (d + 1) <;> rfl
      · simp only [if_neg h]
        cases fillToContents H (nodes.take (2 ^ (d + 1))) (d + 1) <;>
          cases fillToContents H (nodes.drop (2 ^ (d + 1))) (d + 1) <;> rfl
    -- the equation of the `d+1` arm of the `match` asks that the depth is not 1
    · simp

theorem fillToContents_replicate_full (H : Hash) (b : Node) (d : Nat) :
    fillToContents H (List.replicate (2 ^ d) b) d = some (fillToDepth b d) := by
  induction d with
  | zero => rfl
  | succ d ih =>
    rw [fillToContents_succ H d (by simp) (by simp),
      Nat.two_pow_succ, List.take_replicate, List.drop_replicate,
      Nat.min_eq_left (Nat.le_add_right _ _), Nat.add_sub_cancel, ih]
    rfl

theorem getPath_fillToDepth (bottom : Node) (p : List Bool) :
    getPath (fillToDepth bottom p.length) p = some bottom := by
  induction p with
  | nil => simp [fillToDepth]
  | cons b bs ih => cases b <;> simp [fillToDepth, ih]

theorem fillToLength_none (H : Hash) (bottom : Node) (d len : Nat) (h : len > 2 ^ d) :
    fillToLength H bottom d len = none := by
  unfold fillToLength
  rw [if_neg (Nat.ne_of_gt (Nat.lt_trans (Nat.two_pow_pos d) h)), if_pos h]

theorem fillToLength_zero (H : Hash) (bottom : Node) (d : Nat) :
    fillToLength H bottom d 0 = some (zeroNode H d) := by
  unfold fillToLength
  rfl

theorem fillToLength_full (H : Hash) (bottom : Node) (d : Nat) :
    fillToLength H bottom d (2 ^ d) = some (fillToDepth bottom d) := by
  unfold fillToLength
  rw [if_neg (Nat.ne_of_gt (Nat.two_pow_pos d)), if_neg (Nat.lt_irrefl _), if_pos rfl]

/-- `subtree_fill_to_length` is `subtree_fill_to_contents` on `len` copies of the bottom node -/
theorem fillToLength_eq_fillToContents (H : Hash) (b : Node) (d len : Nat) :
    fillToLength H b d len = fillToContents H (List.replicate len b) d := by
  induction d generalizing len with
  | zero =>
    match len with
    | 0 => rfl
    | 1 => rfl
    | len + 2 => rw [fillToLength_none H b 0 _ (by simp), fillToContents_none H _ 0 (by simp)]
  | succ d ih =>
    by_cases hz : len = 0
    · subst hz
      rw [fillToLength_zero]
      exact (fillToContents_nil H _).symm
    by_cases hgt : len > 2 ^ (d + 1)
    · rw [fillToLength_none H b _ _ hgt, fillToContents_none H _ _ (by rwa [List.length_replicate])]
    by_cases hfull : len = 2 ^ (d + 1)
    · rw [hfull, fillToLength_full, fillToContents_replicate_full]
    rw [fillToContents_succ H d (by simpa using hz) (by simpa using hgt), List.take_replicate,
      List.drop_replicate]
    cases d with
    | zero =>
      have : len = 1 := by omega
      subst this
      rfl
    | succ d =>
      rw [fillToLength, if_neg hz, if_neg hgt, if_neg hfull]
      · by_cases hle : len ≤ 2 ^ (d + 1)
        · rw [Nat.min_eq_right hle, Nat.sub_eq_zero_of_le hle, List.replicate_zero,
            fillToContents_nil, ← ih]
          simp only [if_pos hle]
          cases fillToLength H b (d + 1) len <;> rfl
        · rw [Nat.min_eq_left (Nat.le_of_not_le hle), fillToContents_replicate_full, ← ih]
          simp only [if_neg hle]
          rfl
      -- as in `fillToContents_succ`: the depth is not 1
      · simp

end Rmk
