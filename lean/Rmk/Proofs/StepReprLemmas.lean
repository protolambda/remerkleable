/-
Packing lemmas for the step theorem (Rmk/Proofs/StepRepr.lean): how `packInts` / `packBits` change
when one element of the packed list is assigned, appended or popped, expressed with the byte-level
splices the implementation performs (`spliceBasic`, `chunkWithBit`).  The facts are proved once for a
list packed in chunks (`Chunked`); `packInts_chunked` and `packBits_chunked` are its two instances.
Plus `reprFields_set` and the `getD` lemmas for `set` / `append` / `dropLast`.
-/
import Rmk.Proofs.BytesLemmas
import Rmk.Proofs.ListRel
import Rmk.Proofs.PackArith
import Rmk.Proofs.Packing
import Rmk.Proofs.ReprBasics
namespace Rmk.StepRepr
open Rmk Rmk.Impl Rmk.Spec
open Rmk.ChunkTreeLemmas Rmk.ConstructRoot Rmk.ReprBasics

/-- group `j` of width `per` of `xs`, padded with `d` -/
def padGroup {α} (per : Nat) (d : α) (xs : List α) (j : Nat) : List α :=
  (List.range per).map fun r => xs.getD (per * j + r) d

@[simp] theorem padGroup_length {α} (per : Nat) (d : α) (xs : List α) (j : Nat) :
    (padGroup per d xs j).length = per := by simp [padGroup]

theorem padGroup_getElem {α} (per : Nat) (d : α) (xs : List α) (j r : Nat)
    (hr : r < (padGroup per d xs j).length) :
    (padGroup per d xs j)[r] = xs.getD (per * j + r) d := by
  simp [padGroup]

theorem take_drop_pad {α} (per : Nat) (d : α) (xs : List α) (j : Nat) :
    (xs.drop (per * j)).take per ++ List.replicate (per - ((xs.drop (per * j)).take per).length) d
      = padGroup per d xs j := by
  apply List.ext_getElem
  · simp only [List.length_append, List.length_take, List.length_drop, List.length_replicate,
      padGroup_length]; omega
  · intro r h1 h2
    rw [padGroup_getElem]
    simp only [padGroup_length] at h2
    by_cases hr : r < ((xs.drop (per * j)).take per).length
    · rw [List.getElem_append_left hr, List.getElem_take, List.getElem_drop]
      simp only [List.length_take, List.length_drop] at hr
      rw [List.getD_eq_getElem?_getD, List.getElem?_eq_getElem (by omega)]
      rfl
    · rw [List.getElem_append_right (by omega), List.getElem_replicate]
      simp only [List.length_take, List.length_drop] at hr
      rw [List.getD_eq_getElem?_getD, List.getElem?_eq_none (by omega)]
      rfl

theorem groups_map_pad {α β} {per : Nat} (hper : 0 < per) (d : α) (F : List α → β) (xs : List α) :
    ((groups per xs).map fun g => F (g ++ List.replicate (per - g.length) d))
      = (List.range ((xs.length + per - 1) / per)).map fun j => F (padGroup per d xs j) := by
  apply List.ext_getElem
  · simp [groups_length hper]
  · intro j h1 h2
    simp only [List.length_map] at h1
    simp only [List.getElem_map, List.getElem_range, groups_getElem hper xs j h1, take_drop_pad]

/-- if `xs'` differs from `xs` (read with default `d`) exactly at index `i`, the padded groups
    differ exactly at group `i / per`, position `i % per` -/
theorem padGroup_update {α} {per : Nat} (hper : 0 < per) (d : α) (xs xs' : List α) (i : Nat) (x : α)
    (hd : ∀ k, xs'.getD k d = if k = i then x else xs.getD k d) (j : Nat) :
    padGroup per d xs' j
      = if j = i / per then (padGroup per d xs j).set (i % per) x else padGroup per d xs j := by
  have hdm := Nat.div_add_mod i per
  have hmod := Nat.mod_lt i hper
  apply List.ext_getElem
  · split <;> simp
  · intro r h1 h2
    simp only [padGroup_length] at h1
    rw [padGroup_getElem, hd]
    by_cases hj : j = i / per
    · simp only [hj, if_true]
      rw [List.getElem_set]
      by_cases hr : i % per = r
      · simp only [hr, if_true]
        rw [if_pos (by subst hr; omega)]
      · simp only [hr, if_false]
        rw [if_neg (by omega), padGroup_getElem]
    · simp only [hj, if_false]
      rw [padGroup_getElem, if_neg]
      intro he
      apply hj
      have : (per * j + r) / per = j := by
        rw [Nat.mul_add_div hper, Nat.div_eq_of_lt h1]; rfl
      rw [← he, this]

theorem padGroup_beyond {α} (per : Nat) (d : α) (xs : List α) (j : Nat)
    (h : xs.length ≤ per * j) : padGroup per d xs j = List.replicate per d := by
  apply List.ext_getElem
  · simp
  · intro r h1 h2
    rw [padGroup_getElem, List.getElem_replicate, List.getD_eq_getElem?_getD,
      List.getElem?_eq_none (by omega)]
    rfl

theorem getD_set_eq {α} (l : List α) (i : Nat) (x d : α) (hi : i < l.length) (k : Nat) :
    (l.set i x).getD k d = if k = i then x else l.getD k d := by
  simp only [List.getD_eq_getElem?_getD, List.getElem?_set]
  by_cases h : i = k
  · subst h; simp [hi]
  · have : ¬ k = i := fun e => h e.symm
    simp [h, this]

theorem getD_append_singleton {α} (l : List α) (x d : α) (k : Nat) :
    (l ++ [x]).getD k d = if k = l.length then x else l.getD k d := by
  simp only [List.getD_eq_getElem?_getD]
  by_cases h : k < l.length
  · rw [List.getElem?_append_left h, if_neg (by omega)]
  · rw [List.getElem?_append_right (by omega)]
    by_cases h2 : k = l.length
    · simp [h2]
    · rw [if_neg h2, List.getElem?_eq_none (by simp; omega), List.getElem?_eq_none (by omega)]

theorem getD_dropLast {α} (l : List α) (d : α) (k : Nat) :
    l.dropLast.getD k d = if k = l.length - 1 then d else l.getD k d := by
  simp only [List.getD_eq_getElem?_getD, List.getElem?_dropLast]
  by_cases h : k < l.length - 1
  · simp [h, Nat.ne_of_lt h]
  · simp only [h, if_false]
    by_cases h2 : k = l.length - 1
    · simp [h2]
    · rw [if_neg h2, List.getElem?_eq_none (by omega)]

/-- What `packInts` and `packBits` have in common: `pack xs` lists the chunks `chunk xs j` for
    `j < ⌈|xs| / per⌉`; when element `i` of `xs` (read with default `d`) becomes `x`, chunk `i / per`
    is spliced and the others stay; a chunk beyond the end is `zero`. -/
structure Chunked {α γ : Type} (per : Nat) (d : α) (zero : γ) (pack : List α → List γ)
    (chunk : List α → Nat → γ) (splice : γ → Nat → α → γ) : Prop where
  per_pos : 0 < per
  pack_eq : ∀ xs, pack xs = (List.range ((xs.length + per - 1) / per)).map (chunk xs)
  update : ∀ xs xs' i x, (∀ k, xs'.getD k d = if k = i then x else xs.getD k d) →
    ∀ j, chunk xs' j = if j = i / per then splice (chunk xs j) i x else chunk xs j
  beyond : ∀ xs j, xs.length ≤ per * j → chunk xs j = zero

namespace Chunked
variable {α γ : Type} {per : Nat} {d : α} {zero : γ} {pack : List α → List γ}
  {chunk : List α → Nat → γ} {splice : γ → Nat → α → γ} (C : Chunked per d zero pack chunk splice)
include C

theorem length (xs : List α) : (pack xs).length = (xs.length + per - 1) / per := by
  rw [C.pack_eq, List.length_map, List.length_range]

theorem getElem (xs : List α) (j : Nat) (hj : j < (pack xs).length) : (pack xs)[j] = chunk xs j := by
  simp only [C.pack_eq xs, List.getElem_map, List.getElem_range]

theorem chunk_lt {xs : List α} {i : Nat} (hi : i < xs.length) : i / per < (pack xs).length :=
  C.length xs ▸ div_lt_cdiv C.per_pos hi

/-- the chunks after changing element `i` (same number of chunks): chunk `i / per` is spliced -/
theorem pack_update (xs xs' : List α) (i : Nat) (x : α)
    (hcount : (xs'.length + per - 1) / per = (xs.length + per - 1) / per)
    (hd : ∀ k, xs'.getD k d = if k = i then x else xs.getD k d) :
    pack xs' = (pack xs).set (i / per) (splice (chunk xs (i / per)) i x) := by
  apply List.ext_getElem
  · rw [List.length_set, C.length, C.length, hcount]
  · intro j h1 h2
    rw [C.getElem xs' j h1, C.update xs xs' i x hd j, List.getElem_set]
    by_cases hji : i / per = j
    · rw [if_pos hji.symm, if_pos hji, hji]
    · rw [if_neg (Ne.symm hji), if_neg hji, C.getElem xs j]

theorem pack_append_new (xs : List α) (x : α) (hz : xs.length % per = 0) :
    pack (xs ++ [x]) = pack xs ++ [splice zero xs.length x] := by
  have hc := ceil_div_of_mod_eq_zero C.per_pos hz
  have hfull : xs.length ≤ per * (xs.length / per) := by
    have := Nat.div_add_mod xs.length per
    rw [hz, Nat.add_zero] at this
    exact Nat.le_of_eq this.symm
  have hd := getD_append_singleton xs x d
  rw [C.pack_eq (xs ++ [x]), C.pack_eq xs, List.length_append, List.length_singleton,
    ceil_div_succ _ _ C.per_pos, hc, List.range_succ, List.map_append, List.map_cons, List.map_nil,
    C.update xs _ _ x hd, if_pos rfl, C.beyond xs _ hfull]
  congr 1
  apply List.map_congr_left
  intro j hj
  rw [C.update xs _ _ x hd, if_neg (Nat.ne_of_lt (List.mem_range.1 hj))]

theorem pack_pop_remove (xs : List α) (hpos : 0 < xs.length) (hz : (xs.length - 1) % per = 0) :
    pack xs.dropLast = (pack xs).dropLast ∧ (xs.length - 1) / per = (pack xs).length - 1 := by
  have hne : xs ≠ [] := List.ne_nil_of_length_pos hpos
  constructor
  · conv => rhs; rw [← List.dropLast_concat_getLast hne]
    rw [C.pack_append_new _ _ (by rwa [List.length_dropLast]), List.dropLast_concat]
  · rw [C.length, ceil_div_pred C.per_pos hpos, Nat.add_sub_cancel]

end Chunked

/-- `BasicView.backing_from_base` at the byte level -/
def spliceBytes (size : Nat) (r : List UInt8) (j v : Nat) : List UInt8 :=
  r.take (size * j) ++ toLE size v ++ r.drop (size * (j + 1))

theorem spliceBasic_eq (H : Hash) (size : Nat) (base : Node) (j v : Nat) :
    spliceBasic H size base j v = .leaf (spliceBytes size (base.root H) j v) := rfl

theorem splice_flatMap (size : Nat) (l : List Nat) (j v : Nat) (hj : j < l.length) :
    spliceBytes size (l.flatMap fun a => toLE size a) j v
      = (l.set j v).flatMap fun a => toLE size a := by
  induction l generalizing j with
  | nil => simp at hj
  | cons a l ih =>
    cases j with
    | zero =>
      simp only [spliceBytes, Nat.mul_zero, List.take_zero, List.nil_append, Nat.zero_add,
        Nat.mul_one, List.flatMap_cons, List.set_cons_zero, List.drop_left' (toLE_length size a)]
    | succ j =>
      have ih' := ih j (by simpa using hj)
      unfold spliceBytes at ih' ⊢
      have e1 : size * (j + 1) = (toLE size a).length + size * j := by
        rw [toLE_length, Nat.mul_succ]; omega
      have e2 : size * (j + 1 + 1) = (toLE size a).length + size * (j + 1) := by
        rw [toLE_length, Nat.mul_succ]; omega
      rw [List.flatMap_cons, List.set_cons_succ, List.flatMap_cons, e1, e2,
        List.take_length_add_append, List.drop_length_add_append, ← ih']
      simp only [List.append_assoc]

/-- chunk `j` of `pack_ints_to_chunks`, as a function of the chunk index -/
def intChunk (size : Nat) (nums : List Nat) (j : Nat) : Chunk :=
  (padGroup (32 / size) 0 nums j).flatMap fun v => toLE size v

theorem packInts_eq_range (size : Nat) (hper : 0 < 32 / size) (nums : List Nat) :
    packInts size nums
      = (List.range ((nums.length + 32 / size - 1) / (32 / size))).map (intChunk size nums) := by
  unfold packInts
  exact groups_map_pad hper 0 (fun g => g.flatMap fun v => toLE size v) nums

theorem intChunk_update (size : Nat) (hper : 0 < 32 / size) (nums nums' : List Nat) (i x : Nat)
    (hd : ∀ k, nums'.getD k 0 = if k = i then x else nums.getD k 0) (j : Nat) :
    intChunk size nums' j
      = if j = i / (32 / size) then spliceBytes size (intChunk size nums j) (i % (32 / size)) x
        else intChunk size nums j := by
  unfold intChunk
  rw [padGroup_update hper 0 nums nums' i x hd j]
  split
  · rw [splice_flatMap _ _ _ _ (by simpa using Nat.mod_lt i hper)]
  · rfl

theorem intChunk_beyond (size : Nat) (hmul : 32 / size * size = 32) (nums : List Nat) (j : Nat)
    (h : nums.length ≤ 32 / size * j) : intChunk size nums j = zeroChunk := by
  rw [intChunk, padGroup_beyond _ _ _ _ h, flatMap_toLE_replicate_zero, hmul]
  rfl

theorem packInts_chunked (size : Nat) (hper : 0 < 32 / size) (hmul : 32 / size * size = 32) :
    Chunked (32 / size) 0 zeroChunk (packInts size) (intChunk size)
      fun c i x => spliceBytes size c (i % (32 / size)) x :=
  ⟨hper, packInts_eq_range size hper, intChunk_update size hper, intChunk_beyond size hmul⟩

theorem drop_zeroChunk (k : Nat) : zeroChunk.drop k = zeros (32 - k) := by
  show List.drop k (List.replicate 32 0) = List.replicate (32 - k) 0
  rw [List.drop_replicate]

theorem spliceBytes_zero_zero (size : Nat) (hs : size ≤ 32) :
    spliceBytes size zeroChunk 0 0 = zeroChunk := by
  simp only [spliceBytes, Nat.mul_zero, List.take_zero, List.nil_append, Nat.zero_add,
    Nat.mul_one, toLE_zero]
  rw [drop_zeroChunk, ← zeros_add, zeroChunk]
  congr 1; omega

/-- `_new_chunk_with_bit` at the byte level -/
def bitSplice (r : List UInt8) (i : Nat) (v : Bool) : List UInt8 :=
  let k := (i % 256) / 8
  let old := (r.getD k 0).toNat
  let bit := 2 ^ (i % 8)
  let new := if v then (if old / bit % 2 == 1 then old else old + bit)
             else (if old / bit % 2 == 1 then old - bit else old)
  r.set k (UInt8.ofNat new)

theorem chunkWithBit_eq (H : Hash) (chunk : Node) (i : Nat) (v : Bool) :
    chunkWithBit H chunk i v = .leaf (bitSplice (chunk.root H) i v) := rfl

theorem bitSplice_length (r : List UInt8) (i : Nat) (v : Bool) :
    (bitSplice r i v).length = r.length := by simp [bitSplice]

theorem ite_mul_two (c : Prop) [Decidable c] (a : Nat) :
    (if c then a * 2 else 0) = 2 * (if c then a else 0) := by
  split <;> omega

theorem bitsToNat_set_key (g : List Bool) (j : Nat) (v : Bool) (hj : j < g.length) :
    bitsToNat (g.set j v) + (if g[j]?.getD false then 2 ^ j else 0)
      = bitsToNat g + (if v then 2 ^ j else 0) := by
  induction g generalizing j with
  | nil => simp at hj
  | cons b g ih =>
    cases j with
    | zero =>
      simp only [List.set_cons_zero, bitsToNat_cons, List.getElem?_cons_zero, Option.getD_some,
        Nat.pow_zero]
      omega
    | succ j =>
      have := ih j (by simpa using hj)
      simp only [List.set_cons_succ, bitsToNat_cons, List.getElem?_cons_succ, Nat.pow_succ,
        ite_mul_two]
      omega

theorem bitsToNat_set (g : List Bool) (j : Nat) (v : Bool) (hj : j < g.length) :
    bitsToNat (g.set j v)
      = if v then (if bitsToNat g / 2 ^ j % 2 == 1 then bitsToNat g else bitsToNat g + 2 ^ j)
        else (if bitsToNat g / 2 ^ j % 2 == 1 then bitsToNat g - 2 ^ j else bitsToNat g) := by
  have key := bitsToNat_set_key g j v hj
  rw [bitsToNat_testBit]
  by_cases hx : g[j]?.getD false = true <;> cases v <;> simp [hx] at key ⊢ <;> omega

/-- byte `m` of the bitfield encoding, as a function of the byte index (zero beyond the end) -/
def bitByte (bs : List Bool) (m : Nat) : UInt8 := UInt8.ofNat (bitsToNat (padGroup 8 false bs m))

theorem bitByte_beyond (bs : List Bool) (m : Nat) (h : bs.length ≤ 8 * m) : bitByte bs m = 0 := by
  rw [bitByte, padGroup_beyond 8 false bs m h, bitsToNat_replicate_false]
  rfl

theorem bitsToBytes_eq_range (bs : List Bool) :
    bitsToBytes bs = (List.range ((bs.length + 7) / 8)).map (bitByte bs) := by
  have h := groups_map_pad (per := 8) (by decide) false
    (fun g => UInt8.ofNat (bitsToNat g)) bs
  simp only [bitsToNat_append_replicate_false] at h
  have e : (bs.length + 8 - 1) / 8 = (bs.length + 7) / 8 := by omega
  rw [e] at h
  exact h

theorem bitsToBytes_getD (bs : List Bool) (m : Nat) : (bitsToBytes bs).getD m 0 = bitByte bs m := by
  rw [List.getD_eq_getElem?_getD]
  by_cases hm : m < (bs.length + 7) / 8
  · rw [List.getElem?_eq_getElem (by simpa using hm)]
    simp only [bitsToBytes_eq_range bs, List.getElem_map, List.getElem_range, Option.getD_some]
  · rw [List.getElem?_eq_none (by simp; omega), bitByte_beyond bs m (by omega)]
    rfl

/-- chunk `j` of `pack_bits_to_chunks`, as a function of the chunk index -/
def bitChunk (bs : List Bool) (j : Nat) : Chunk :=
  (List.range 32).map fun k => bitByte bs (32 * j + k)

theorem packBits_eq_range (bs : List Bool) :
    packBits bs = (List.range ((bs.length + 255) / 256)).map (bitChunk bs) := by
  have h := groups_map_pad (per := 32) (by decide) (0 : UInt8) (fun g => g) (bitsToBytes bs)
  have e : ((bitsToBytes bs).length + 32 - 1) / 32 = (bs.length + 255) / 256 := by
    rw [bitsToBytes_length]; omega
  rw [e] at h
  unfold packBits zeros
  rw [h]
  apply List.map_congr_left
  intro j _
  simp only [padGroup, bitChunk, bitsToBytes_getD]

theorem bitChunk_length (bs : List Bool) (j : Nat) : (bitChunk bs j).length = 32 := by
  simp [bitChunk]

theorem bitChunk_beyond (bs : List Bool) (j : Nat) (h : bs.length ≤ 256 * j) :
    bitChunk bs j = zeroChunk := by
  apply List.ext_getElem
  · simp [bitChunk]
  · intro k h1 h2
    simp only [bitChunk, List.length_map, List.length_range] at h1
    simp only [bitChunk, List.getElem_map, List.getElem_range, zeroChunk, zeros,
      List.getElem_replicate]
    exact bitByte_beyond bs _ (by omega)

/-- byte `32 * j + k` of the bit string holds bit `i` iff chunk `j` holds it, at byte `k` -/
theorem byte_index (i : Nat) :
    32 * (i / 256) + i % 256 / 8 = i / 8 ∧ i % 256 / 8 < 32 ∧
      ∀ j k, k < 32 → 32 * j + k = i / 8 → j = i / 256 ∧ i % 256 / 8 = k := by
  have h1 : i / 8 / 32 = i / 256 := Nat.div_div_eq_div_mul i 8 32
  have h2 : i % 256 / 8 = i / 8 % 32 := Nat.mod_mul_right_div_self i 8 32
  rw [← h1, h2]
  refine ⟨Nat.div_add_mod (i / 8) 32, Nat.mod_lt _ (by decide), fun j k hk h => ?_⟩
  rw [← h, Nat.mul_add_div (by decide), Nat.div_eq_of_lt hk, Nat.mul_add_mod, Nat.mod_eq_of_lt hk]
  exact ⟨rfl, rfl⟩

theorem bitChunk_update (bs bs' : List Bool) (i : Nat) (v : Bool)
    (hd : ∀ k, bs'.getD k false = if k = i then v else bs.getD k false) (j : Nat) :
    bitChunk bs' j = if j = i / 256 then bitSplice (bitChunk bs j) i v else bitChunk bs j := by
  -- byte by byte: only byte `i / 8` of the bit string changes (`padGroup_update`), and `byte_index` places it in
  -- chunk `i / 256` at byte `i % 256 / 8`
  have hb : ∀ m, bitByte bs' m
      = if m = i / 8 then UInt8.ofNat (bitsToNat ((padGroup 8 false bs m).set (i % 8) v))
        else bitByte bs m := by
    intro m
    unfold bitByte
    rw [padGroup_update (by decide) false bs bs' i v hd m]
    split <;> rfl
  obtain ⟨he, hlt, hinv⟩ := byte_index i
  apply List.ext_getElem
  · split
    · rw [bitSplice_length, bitChunk_length, bitChunk_length]
    · rw [bitChunk_length, bitChunk_length]
  · intro k h1 h2
    simp only [bitChunk, List.length_map, List.length_range] at h1
    have hk : (bitChunk bs' j)[k] = bitByte bs' (32 * j + k) := by
      simp only [bitChunk, List.getElem_map, List.getElem_range]
    refine hk.trans ?_
    rw [hb]
    by_cases hj : j = i / 256
    · simp only [hj, if_true]
      have hkk : i % 256 / 8 < (bitChunk bs (i / 256)).length := by
        rw [bitChunk_length]
        exact hlt
      have hold : ((bitChunk bs (i / 256)).getD (i % 256 / 8) 0).toNat
          = bitsToNat (padGroup 8 false bs (i / 8)) := by
        rw [List.getD_eq_getElem?_getD, List.getElem?_eq_getElem hkk, Option.getD_some]
        simp only [bitChunk, List.getElem_map, List.getElem_range]
        rw [he, bitByte, toNat_ofNat_bitsToNat (by simp)]
      unfold bitSplice
      simp only [hold]
      rw [List.getElem_set]
      by_cases hk2 : i % 256 / 8 = k
      · simp only [hk2, if_true]
        have e : 32 * (i / 256) + k = i / 8 := hk2 ▸ he
        rw [if_pos e, bitsToNat_set _ _ _ (by rw [padGroup_length]; exact Nat.mod_lt _ (by decide)), e]
      · simp only [hk2, if_false]
        rw [if_neg fun e => hk2 (hinv _ k h1 e).2]
        simp only [bitChunk, List.getElem_map, List.getElem_range]
    · simp only [hj, if_false]
      rw [if_neg fun e => hj (hinv j k h1 e).1]
      simp only [bitChunk, List.getElem_map, List.getElem_range]

theorem bitSplice_mod (r : List UInt8) (i : Nat) (v : Bool) (h : i % 256 = 0) :
    bitSplice r i v = bitSplice r 0 v := by
  have h8 : i % 8 = 0 := by omega
  simp only [bitSplice, h, h8]

theorem packBits_chunked : Chunked 256 false zeroChunk packBits bitChunk bitSplice :=
  ⟨by decide, packBits_eq_range, bitChunk_update, bitChunk_beyond⟩

theorem reprFields_set {H : Hash} : ∀ {fs : List Ty} {vs : List Val} {ns : List Node},
    ReprFields H fs vs ns → ∀ (i : Nat) (ft : Ty) (x : Val) (m : Node), fs[i]? = some ft →
    Impl.Repr H ft x m → ReprFields H fs (vs.set i x) (ns.set i m)
  | [], [], [], _, i, _, _, _, hf, _ => by simp at hf
  | t :: ts, v :: vs, n :: ns, h, i, ft, x, m, hf, hr => by
    unfold ReprFields at h
    cases i with
    | zero =>
      simp only [List.getElem?_cons_zero, Option.some.injEq] at hf
      subst hf
      simp only [List.set_cons_zero]; unfold ReprFields
      exact ⟨hr, h.2⟩
    | succ i =>
      simp only [List.getElem?_cons_succ] at hf
      simp only [List.set_cons_succ]; unfold ReprFields
      exact ⟨h.1, reprFields_set (fs := ts) (vs := vs) (ns := ns) h.2 i ft x m hf hr⟩
  | [], _ :: _, _, h, _, _, _, _, _, _ => by unfold ReprFields at h; exact h.elim
  | [], [], _ :: _, h, _, _, _, _, _, _ => by unfold ReprFields at h; exact h.elim
  | _ :: _, [], _, h, _, _, _, _, _, _ => by unfold ReprFields at h; exact h.elim
  | _ :: _, _ :: _, [], h, _, _, _, _, _, _ => by unfold ReprFields at h; exact h.elim

end Rmk.StepRepr
