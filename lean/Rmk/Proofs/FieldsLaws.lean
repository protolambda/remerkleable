/-
Laws of the model of `Container.fields()` (Rmk/Impl/Fields.lean): insertion-ordered dicts as association lists.
  * lookup / keys of `dictSet`, `dictUpdate`
  * a dict never has a key twice, private names are never fields
  * LAST declaration wins (type), FIRST declaration fixes the position (order)
  * the two shapes built by the test harness (`fieldsStep_extend`, `fieldsStep_redeclare_head`)
Everything is for an arbitrary value type `α`; keys are `String`; the position law is stated with core's `List.eraseDups`.
-/
import Rmk.Impl.Fields

open Rmk.Impl

namespace Rmk.FieldsLaws

abbrev keys {α} (d : List (String × α)) : List String := d.map (·.1)

/-- the public declarations of a chain of classes, in declaration order (root-most class first) -/
abbrev publicDecls {α} (chain : List (List (String × α))) : List (String × α) :=
  chain.flatten.filter fun kv => isPublic kv.1

theorem lookup_cons_ite {α} (k k' : String) (v : α) (rest : List (String × α)) :
    List.lookup k' ((k, v) :: rest) = if k' = k then some v else List.lookup k' rest := by
  rw [List.lookup_cons]
  split <;> simp_all

theorem lookup_dictSet {α} (d : List (String × α)) (k k' : String) (v : α) :
    (dictSet d k v).lookup k' = if k' = k then some v else d.lookup k' := by
  fun_induction dictSet d k v with
  | case1 => exact lookup_cons_ite ..
  | case2 v1 rest =>
    rw [lookup_cons_ite, lookup_cons_ite]
    split <;> rfl
  | case3 k1 v1 rest h ih =>
    rw [lookup_cons_ite, ih, lookup_cons_ite]
    by_cases e : k' = k
    · rw [if_pos e, if_pos e, if_neg fun e1 => h (e1.symm.trans e)]
    · rw [if_neg e, if_neg e]

theorem keys_dictSet_of_mem {α} (d : List (String × α)) (k : String) (v : α) (h : k ∈ keys d) :
    keys (dictSet d k v) = keys d := by
  fun_induction dictSet d k v with
  | case1 => cases h
  | case2 => rfl
  | case3 k1 v1 rest h1 ih =>
    exact congrArg (k1 :: ·) (ih ((List.mem_cons.mp h).resolve_left (Ne.symm h1)))

theorem dictSet_of_not_mem {α} (d : List (String × α)) (k : String) (v : α) (h : k ∉ keys d) :
    dictSet d k v = d ++ [(k, v)] := by
  fun_induction dictSet d k v with
  | case1 => rfl
  | case2 => exact absurd List.mem_cons_self h
  | case3 k1 v1 rest h1 ih => rw [ih fun e => h (List.mem_cons_of_mem _ e), List.cons_append]

theorem keys_dictSet {α} (d : List (String × α)) (k : String) (v : α) :
    keys (dictSet d k v) = if k ∈ keys d then keys d else keys d ++ [k] := by
  split
  · next h => exact keys_dictSet_of_mem d k v h
  · next h => rw [dictSet_of_not_mem d k v h, keys, List.map_append]; rfl

theorem mem_keys_dictSet {α} (d : List (String × α)) (k k' : String) (v : α) :
    k' ∈ keys (dictSet d k v) ↔ k' = k ∨ k' ∈ keys d := by
  rw [keys_dictSet]
  split
  · next h => exact ⟨Or.inr, fun e => e.elim (· ▸ h) id⟩
  · rw [List.mem_append, List.mem_singleton]
    exact Or.comm

theorem nodup_dictSet {α} (d : List (String × α)) (k : String) (v : α) (h : (keys d).Nodup) :
    (keys (dictSet d k v)).Nodup := by
  rw [keys_dictSet]
  split
  · exact h
  · next hk =>
    rw [List.nodup_append]
    refine ⟨h, by simp, fun a ha b hb e => hk ?_⟩
    rw [← List.mem_singleton.mp hb, ← e]
    exact ha

theorem nodup_dictUpdate {α} (d kvs : List (String × α)) (h : (keys d).Nodup) :
    (keys (dictUpdate d kvs)).Nodup := by
  induction kvs generalizing d with
  | nil => exact h
  | cons kv rest ih => exact ih _ (nodup_dictSet d kv.1 kv.2 h)

theorem dictUpdate_nil {α} (d : List (String × α)) : dictUpdate d [] = d := rfl

theorem dictUpdate_cons {α} (d : List (String × α)) (kv : String × α) (rest : List (String × α)) :
    dictUpdate d (kv :: rest) = dictUpdate (dictSet d kv.1 kv.2) rest := rfl

theorem dictUpdate_append {α} (d a b : List (String × α)) :
    dictUpdate d (a ++ b) = dictUpdate (dictUpdate d a) b := by
  unfold dictUpdate
  rw [List.foldl_append]

/-- the chain of classes is one big update with all public declarations in order -/
theorem foldl_fieldsStep {α} (chain : List (List (String × α))) (d : List (String × α)) :
    chain.foldl fieldsStep d = dictUpdate d (publicDecls chain) := by
  induction chain generalizing d with
  | nil => rfl
  | cons c rest ih =>
    rw [List.foldl_cons, ih]
    simp only [publicDecls, List.flatten_cons, List.filter_append]
    rw [dictUpdate_append]
    rfl

theorem fieldsChain_eq {α} (chain : List (List (String × α))) :
    fieldsChain chain = dictUpdate [] (publicDecls chain) :=
  foldl_fieldsStep chain []

theorem fieldsChain_nodup {α} (chain : List (List (String × α))) : (keys (fieldsChain chain)).Nodup := by
  rw [fieldsChain_eq]
  exact nodup_dictUpdate [] _ List.nodup_nil

theorem mem_dictSet {α} (d : List (String × α)) (k : String) (v : α) (kv : String × α)
    (h : kv ∈ dictSet d k v) : kv = (k, v) ∨ kv ∈ d := by
  fun_induction dictSet d k v with
  | case1 => exact Or.inl (List.mem_singleton.mp h)
  | case2 => exact (List.mem_cons.mp h).imp_right (List.mem_cons_of_mem _)
  | case3 k1 v1 rest h1 ih =>
    rcases List.mem_cons.mp h with e | e
    · exact Or.inr (e ▸ List.mem_cons_self)
    · exact (ih e).imp_right (List.mem_cons_of_mem _)

theorem mem_dictUpdate {α} (d kvs : List (String × α)) (kv : String × α)
    (h : kv ∈ dictUpdate d kvs) : kv ∈ kvs ∨ kv ∈ d := by
  induction kvs generalizing d with
  | nil => exact Or.inr h
  | cons hd rest ih =>
    rw [dictUpdate_cons] at h
    rcases ih _ h with e | e
    · exact Or.inl (List.mem_cons_of_mem _ e)
    · rcases mem_dictSet d hd.1 hd.2 kv e with e | e
      · exact Or.inl (e ▸ List.mem_cons_self)
      · exact Or.inr e

theorem mem_dictUpdate_nil {α} (kvs : List (String × α)) (kv : String × α)
    (h : kv ∈ dictUpdate [] kvs) : kv ∈ kvs :=
  (mem_dictUpdate [] kvs kv h).elim id fun e => nomatch e

theorem fieldsChain_mem {α} (chain : List (List (String × α))) (kv : String × α)
    (h : kv ∈ fieldsChain chain) : kv ∈ publicDecls chain :=
  mem_dictUpdate_nil _ kv (fieldsChain_eq chain ▸ h)

theorem fieldsChain_public {α} (chain : List (List (String × α))) :
    ∀ kv ∈ fieldsChain chain, isPublic kv.1 = true := by
  intro kv h
  exact (List.mem_filter.mp (fieldsChain_mem chain kv h)).2

theorem lookup_dictUpdate {α} (d kvs : List (String × α)) (k : String) :
    (dictUpdate d kvs).lookup k = (kvs.reverse.lookup k).or (d.lookup k) := by
  induction kvs generalizing d with
  | nil => exact (Option.none_or ..).symm
  | cons kv rest ih =>
    obtain ⟨k1, v1⟩ := kv
    rw [dictUpdate_cons, ih, List.reverse_cons, List.lookup_append, lookup_dictSet, lookup_cons_ite,
      List.lookup_nil, Option.or_assoc]
    congr 1
    split <;> rfl

/-- a dict built from nothing: the last declaration of a key gives its value -/
theorem lookup_dictUpdate_nil {α} (kvs : List (String × α)) (k : String) :
    (dictUpdate [] kvs).lookup k = kvs.reverse.lookup k := by
  rw [lookup_dictUpdate, List.lookup_nil, Option.or_none]

/-- Last declaration wins -/
theorem fieldsChain_lookup {α} (chain : List (List (String × α))) (k : String) :
    (fieldsChain chain).lookup k
      = ((chain.flatten.filter fun kv => isPublic kv.1).reverse).lookup k := by
  rw [fieldsChain_eq, lookup_dictUpdate_nil]

theorem filter_not_mem_snoc (ks l : List String) (k : String) :
    l.filter (· ∉ ks ++ [k]) = (l.filter (· ∉ ks)).filter (· != k) := by
  rw [List.filter_filter]
  refine List.filter_congr fun x _ => ?_
  by_cases h : x = k <;> simp [h]

theorem keys_dictUpdate {α} (d kvs : List (String × α)) :
    keys (dictUpdate d kvs) = keys d ++ ((keys kvs).filter (· ∉ keys d)).eraseDups := by
  induction kvs generalizing d with
  | nil => exact (List.append_nil _).symm
  | cons kv rest ih =>
    obtain ⟨k, v⟩ := kv
    have e : keys ((k, v) :: rest) = k :: keys rest := rfl
    rw [dictUpdate_cons, ih, e, keys_dictSet]
    by_cases hk : k ∈ keys d
    · rw [if_pos hk, List.filter_cons_of_neg (p := (· ∉ keys d)) (mt of_decide_eq_true (not_not_intro hk))]
    · -- a new key goes to the end of the dict and to the front of the keys still to come
      rw [if_neg hk, List.filter_cons_of_pos (p := (· ∉ keys d)) (decide_eq_true hk),
        List.eraseDups_cons, filter_not_mem_snoc, List.append_assoc]
      rfl

/-- a dict built from nothing: its keys are the declared keys, each at its first position -/
theorem keys_dictUpdate_nil {α} (kvs : List (String × α)) :
    keys (dictUpdate [] kvs) = (keys kvs).eraseDups := by
  rw [keys_dictUpdate]
  exact congrArg List.eraseDups (List.filter_eq_self.mpr fun _ _ => rfl)

/-- First declaration fixes the position -/
theorem fieldsChain_keys {α} (chain : List (List (String × α))) :
    keys (fieldsChain chain)
      = ((chain.flatten.filter fun kv => isPublic kv.1).map (·.1)).eraseDups := by
  rw [fieldsChain_eq, keys_dictUpdate_nil]

theorem dictUpdate_extend {α} (inh own : List (String × α))
    (hnd : (keys own).Nodup) (hdis : ∀ k ∈ keys own, k ∉ keys inh) :
    dictUpdate inh own = inh ++ own := by
  induction own generalizing inh with
  | nil => exact (List.append_nil _).symm
  | cons kv rest ih =>
    obtain ⟨k, v⟩ := kv
    have ⟨hk, hrest⟩ := List.nodup_cons.mp hnd
    rw [dictUpdate_cons, dictSet_of_not_mem inh k v (hdis k List.mem_cons_self), ih _ hrest,
      List.append_assoc]
    · rfl
    · intro x hx e
      rw [keys, List.map_append, List.mem_append] at e
      rcases e with e | e
      · exact hdis x (List.mem_cons_of_mem _ hx) e
      · exact hk (List.mem_singleton.mp e ▸ hx)

theorem fieldsStep_extend {α} (inh own : List (String × α))
    (hpub : ∀ kv ∈ own, isPublic kv.1 = true) (hnd : (keys own).Nodup)
    (hdis : ∀ k ∈ keys own, k ∉ keys inh) :
    fieldsStep inh own = inh ++ own := by
  rw [fieldsStep, List.filter_eq_self.mpr hpub]
  exact dictUpdate_extend inh own hnd hdis

theorem fieldsStep_redeclare_head {α} (k0 : String) (a b : α) (rest more : List (String × α))
    (hk0 : isPublic k0 = true) (_hrest : k0 ∉ keys rest)
    (hpub : ∀ kv ∈ more, isPublic kv.1 = true) (hnd : (keys more).Nodup)
    (hdis : ∀ k ∈ keys more, k ∉ k0 :: keys rest) :
    fieldsStep ((k0, a) :: rest) ((k0, b) :: more) = (k0, b) :: rest ++ more := by
  have hp : ∀ kv ∈ (k0, b) :: more, isPublic kv.1 = true := List.forall_mem_cons.mpr ⟨hk0, hpub⟩
  have h1 : dictSet ((k0, a) :: rest) k0 b = (k0, b) :: rest := by rw [dictSet, if_pos rfl]
  rw [fieldsStep, List.filter_eq_self.mpr hp, dictUpdate_cons, h1]
  exact dictUpdate_extend _ more hnd hdis

example : fieldsChain [[("a", 1), ("_x", 9), ("b", 2)], [("c", 3), ("a", 7)]]
    = [("a", 7), ("b", 2), ("c", 3)] := by decide +kernel

example : (fieldsChain [[("a", 1), ("_x", 9), ("b", 2)], [("c", 3), ("a", 7)]]).lookup "a" = some 7 := by
  decide +kernel

example : keys (fieldsChain [[("a", 1), ("_x", 9), ("b", 2)], [("c", 3), ("a", 7)]]) = ["a", "b", "c"] := by
  decide +kernel

example : fieldsStep [("a", 1), ("b", 2)] [("c", 3), ("d", 4)] = [("a", 1), ("b", 2), ("c", 3), ("d", 4)] := by
  decide +kernel

example : fieldsStep [("a", 1), ("b", 2)] [("a", 5), ("d", 4)] = [("a", 5), ("b", 2), ("d", 4)] := by
  decide +kernel

example : isPublic "_x" = false := by decide +kernel
example : isPublic "x_" = true := by decide +kernel

/-- within one class the later annotation wins, the position is the one of the first -/
example : fieldsChain [[("a", 1), ("b", 2), ("a", 3)]] = [("a", 3), ("b", 2)] := by decide +kernel

end Rmk.FieldsLaws
