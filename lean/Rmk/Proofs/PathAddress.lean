/-
C08: the node found at the static generalized index of a key path is the node that
represents the addressed sub-value (for every tree shape admitted by `Impl.Repr`), and for packed
positions it is the leaf chunk that holds the addressed element.  Generic in the pair hash `H`.
-/
import Rmk.Proofs.ChunkTree
import Rmk.Proofs.ConstructRoot
import Rmk.Proofs.Gindex
import Rmk.Proofs.ListRel
import Rmk.Proofs.PackArith
import Rmk.Proofs.Packing
import Rmk.Proofs.PathGindex
import Rmk.Proofs.ReprBasics
import Rmk.Proofs.TypeLemmas
namespace Rmk.PathAddress
open Rmk Rmk.Impl Rmk.Spec
open Rmk.ChunkTreeLemmas Rmk.ReprBasics

/-- The sub-value of `v : t` addressed by one key, with its type (`none` type = the `None` option of
    a union).  `none` = the key does not belong to the VALUE (index at or beyond the actual length,
    option other than the selected one, key not applicable to the type).
    For packed sequences / bitfields / byte arrays the element is returned too (as a `uintN` /
    `boolean` / `uint8` value); the tree node at the index is then the chunk holding it, see
    `unpackedKey` and `path_packed_addresses`.
    (`ByteList` has a `'__len__'` key exactly like `Bitlist` / `List`: `navigate_type` /
    `key_to_static_gindex` accept it and address the length mix-in leaf, gindex 3.) -/
def subVal : Ty → Val → Key → Option (Option Ty × Val)
  | .list et _, .seq vs, .idx i => (vs[i]?).map fun x => (some et, x)
  | .list _ _, .seq vs, .len => some (some (.uint 32), .num vs.length)
  | .vector et _, .seq vs, .idx i => (vs[i]?).map fun x => (some et, x)
  | .container fs, .seq vs, .idx i =>
    match fs[i]?, vs[i]? with
    | some ft, some x => some (some ft, x)
    | _, _ => none
  | .bitlist _, .bits bs, .idx i => (bs[i]?).map fun b => (some .bool, .num (if b then 1 else 0))
  | .bitlist _, .bits bs, .len => some (some (.uint 32), .num bs.length)
  | .bitvector _, .bits bs, .idx i => (bs[i]?).map fun b => (some .bool, .num (if b then 1 else 0))
  | .bytelist _, .bytes bs, .idx i => (bs[i]?).map fun b => (some (.uint 1), .num b.toNat)
  | .bytelist _, .bytes bs, .len => some (some (.uint 32), .num bs.length)
  | .bytevector _, .bytes bs, .idx i => (bs[i]?).map fun b => (some (.uint 1), .num b.toNat)
  | .union hasNone opts, .un sel x, .idx i =>
    if i = sel then some (optType hasNone opts sel, x) else none
  | .union _ _, .un sel _, .sel => some (some (.uint 32), .num sel)
  | _, _, _ => none

/-- the key addresses a node of its own (an element / field / option subtree, the length or the
    selector leaf), as opposed to a position inside a packed chunk -/
def unpackedKey : Ty → Key → Bool
  | .list et _, .idx _ => !et.isBasic
  | .vector et _, .idx _ => !et.isBasic
  | .bitlist _, .idx _ => false
  | .bitvector _, .idx _ => false
  | .bytelist _, .idx _ => false
  | .bytevector _, .idx _ => false
  | _, _ => true

/-- follow a key path through a value, staying in unpacked positions -/
def subValPath : Option Ty → Val → List Key → Option (Option Ty × Val)
  | ot, v, [] => some (ot, v)
  | none, _, _ :: _ => none
  | some t, v, k :: ks =>
    if unpackedKey t k then
      match subVal t v k with
      | none => none
      | some (ot', v') => subValPath ot' v' ks
    else none

/-- the chunks of a packed value and the number of elements per chunk -/
def packedChunks : Ty → Val → Option (List Chunk × Nat)
  | .list et _, .seq vs =>
    if et.isBasic then some (packInts et.basicSize (vs.map numOf), 32 / et.basicSize) else none
  | .vector et _, .seq vs =>
    if et.isBasic then some (packInts et.basicSize (vs.map numOf), 32 / et.basicSize) else none
  | .bitlist _, .bits bs => some (packBits bs, 256)
  | .bitvector _, .bits bs => some (packBits bs, 256)
  | .bytelist _, .bytes bs => some (packBytes bs, 32)
  | .bytevector _, .bytes bs => some (packBytes bs, 32)
  | _, _ => none

theorem repr_lenNode (H : Hash) (k : Nat) (h : k < 2 ^ 256) :
    Impl.Repr H (.uint 32) (.num k) (lenNode k) := by
  unfold Impl.Repr; simp only [lenNode]
  exact ⟨h, trivial⟩

theorem reprOpt_iff {H : Hash} : ∀ {opts : List Ty} {k : Nat} {v : Val} {c : Node},
    ReprOpt H opts k v c ↔ ∃ t, opts[k]? = some t ∧ Impl.Repr H t v c
  | [], _, _, _ => by simp [ReprOpt]
  | t :: _, 0, _, _ => by simp [ReprOpt]
  | _ :: ts, k + 1, _, _ => by
    simp only [ReprOpt, List.getElem?_cons_succ]
    exact reprOpt_iff (opts := ts)

theorem reprOpt_get {H : Hash} : ∀ {opts : List Ty} {k : Nat} {v : Val} {c : Node},
    ReprOpt H opts k v c → ∀ t, opts[k]? = some t → Impl.Repr H t v c := fun h t ht => by
  obtain ⟨t', ht', hr⟩ := reprOpt_iff.1 h
  cases ht.symm.trans ht'
  exact hr

theorem limitsOkList_getElem? (fs : List Ty) (h : limitsOkList fs = true) (i : Nat) (t : Ty)
    (ht : fs[i]? = some t) : limitsOk t = true := by
  induction fs generalizing i with
  | nil => simp at ht
  | cons f fs ih =>
    simp [limitsOkList] at h
    cases i with
    | zero => simp at ht; subst ht; exact h.1
    | succ j => simp at ht; exact ih h.2 j ht

theorem optIndex_lt {hasNone : Bool} {opts : List Ty} {sel : Nat}
    (hsel : sel < optCount hasNone opts) (hc : ¬ (hasNone && sel == 0) = true) :
    optIndex hasNone sel < opts.length := by
  unfold optCount at hsel
  unfold optIndex
  cases hasNone <;> simp at hc hsel ⊢ <;> omega

/-- `'__len__'` / `'__selector__'`, without any bound: the node at index 3 is the 32-byte
    little-endian leaf of the length / selector -/
theorem len_sel_addresses (H : Hash) (t : Ty) (v : Val) (n : Node) (k : Key) (x : Nat)
    (hr : Impl.Repr H t v n) (hk : k = .len ∨ k = .sel)
    (hs : subVal t v k = some (some (.uint 32), .num x)) :
    keyToStaticGindex t k = some 3 ∧ getter n 3 = some (lenNode x) := by
  -- the cases are numbered in the order of the patterns of `subVal` (the two outcomes of the
  -- container and union element patterns count separately): 2, 7, 10 are the `len` keys of
  -- list / bitlist / bytelist, 14 is `sel`, 15 the catch-all
  fun_cases subVal t v k
  case case15 =>
    -- no pattern of `subVal` applies: rewrite with its catch-all equation, whose side conditions
    -- are the hypotheses of this case
    rw [subVal] at hs
    · cases hs
    all_goals assumption
  case case2 | case7 | case10 | case14 =>
    cases hs
    unfold Impl.Repr at hr
    obtain ⟨_, c, rfl, _⟩ := hr
    exact ⟨rfl, getter_three _ _⟩
  all_goals (rcases hk with h | h <;> cases h)

/-- the `None` option of a union: the node at index 2 is the zero chunk -/
theorem none_option_addresses (H : Hash) (t : Ty) (v : Val) (n : Node) (i : Nat) (v' : Val)
    (hr : Impl.Repr H t v n) (hs : subVal t v (.idx i) = some (none, v')) :
    keyToStaticGindex t (.idx i) = some 2 ∧ getter n 2 = some (zeroNode H 0) ∧ v' = .none := by
  generalize hk : Key.idx i = k at hs
  fun_cases subVal t v k
  case case15 =>
    rw [subVal] at hs
    · cases hs
    all_goals assumption
  case case12 hasNone opts x j =>
    cases hk
    unfold subVal at hs; simp only [if_true, Option.some.injEq, Prod.mk.injEq] at hs
    obtain ⟨ht, rfl⟩ := hs
    unfold Impl.Repr at hr
    obtain ⟨hsel, c, rfl, hr⟩ := hr
    refine ⟨if_neg (Nat.not_le.2 hsel), ?_⟩
    by_cases hc : (hasNone && i == 0) = true
    · rw [if_pos hc] at hr
      obtain ⟨rfl, rfl⟩ := hr
      exact ⟨getter_two _ _, rfl⟩
    · rw [optType, if_neg hc, List.getElem?_eq_getElem (optIndex_lt hsel hc)] at ht
      cases ht
  case case13 _ _ _ _ _ hne => unfold subVal at hs; simp only [hne, if_false] at hs; cases hs
  case case4 _ _ _ _ _ h1 h2 => unfold subVal at hs; simp only [h1, h2] at hs; cases hs
  case case5 => simp only [subVal] at hs; cases hs
  case case2 | case7 | case10 | case14 => cases hk
  all_goals
    cases hk
    obtain ⟨_, he⟩ := map_getElem?_eq_some hs
    cases he

theorem subVal_navigateType (t : Ty) (v : Val) (k : Key) (ot' : Option Ty) (v' : Val)
    (hwt : WT t v = true) (hs : subVal t v k = some (ot', v')) : navigateType t k = some ot' := by
  fun_cases subVal t v k
  case case15 =>
    rw [subVal] at hs
    · cases hs
    all_goals assumption
  case case5 => simp only [subVal] at hs; cases hs
  case case13 _ _ _ _ _ hne => unfold subVal at hs; simp only [hne, if_false] at hs; cases hs
  case case4 fs vs i ft x hvi hfi =>
    unfold subVal at hs; simp only [hfi, hvi, Option.some.injEq, Prod.mk.injEq] at hs
    unfold navigateType; simp only [hfi, Option.map_some, ← hs.1]
  case case12 hasNone opts x i =>
    unfold subVal at hs; simp only [if_true, Option.some.injEq, Prod.mk.injEq] at hs
    rw [navigateType, if_neg (Nat.not_le.2 (WT_union_sel_lt hwt)), hs.1]
  case case2 | case7 | case10 | case14 => cases hs; rfl
  all_goals
    obtain ⟨hi, he⟩ := map_getElem?_eq_some hs
    cases he
    unfold WT at hwt; simp only [Bool.and_eq_true, beq_iff_eq, decide_eq_true_eq] at hwt
    exact if_neg (by omega)

/-- One step (core form).  The `limitsOk` hypothesis is needed for the `'__len__'` key only: the
    length leaf is a `uint256` representation of the length when the length is `< 2^256`. -/
theorem step_addresses_core (H : Hash) (t : Ty) (v : Val) (n : Node) (k : Key) (g : Nat)
    (t' : Ty) (v' : Val) (hr : Impl.Repr H t v n) (hwf : t.wf = true)
    (hlen : k = .len → limitsOk t = true)
    (hg : keyToStaticGindex t k = some g) (hu : unpackedKey t k = true)
    (hs : subVal t v k = some (some t', v')) :
    ∃ m, getter n g = some m ∧ Impl.Repr H t' v' m := by
  fun_cases subVal t v k
  case case15 =>
    rw [subVal] at hs
    · cases hs
    all_goals assumption
  case case5 => simp only [subVal] at hs; cases hs
  case case13 _ _ _ _ _ hne => unfold subVal at hs; simp only [hne, if_false] at hs; cases hs
  case case6 | case8 | case9 | case11 => cases hu
  case case2 | case7 | case10 =>
    cases hs
    obtain ⟨h3, hget⟩ := len_sel_addresses H _ _ n _ _ hr (.inl rfl) rfl
    cases h3.symm.trans hg
    unfold Impl.Repr at hr
    have hle := hr.1
    have hl := hlen rfl
    simp only [limitsOk, Bool.and_eq_true, decide_eq_true_eq] at hl
    exact ⟨_, hget, repr_lenNode H _ (by omega)⟩
  case case14 =>
    cases hs
    obtain ⟨h3, hget⟩ := len_sel_addresses H _ _ n _ _ hr (.inr rfl) rfl
    cases h3.symm.trans hg
    unfold Impl.Repr at hr
    exact ⟨_, hget, repr_lenNode H _ (sel_lt_of_wf hwf hr.1)⟩
  case case1 et lim vs i =>
    obtain ⟨hi, he⟩ := map_getElem?_eq_some hs
    cases he
    obtain ⟨hp, rfl⟩ := static_idx hg
    obtain ⟨_, c, rfl, hsr⟩ := repr_list_iff.1 hr
    obtain ⟨hb, m, hm, hrm⟩ := seqRepr_get hsr hu hi
    simp only [chunkPos, PathPrefix.perChunk, if_neg hb, Nat.div_one] at hp ⊢
    exact ⟨m, (getter_mixin c _ hp).trans hm, hrm⟩
  case case3 et len vs i =>
    obtain ⟨hi, he⟩ := map_getElem?_eq_some hs
    cases he
    obtain ⟨hp, rfl⟩ := static_idx hg
    obtain ⟨hb, m, hm, hrm⟩ := seqRepr_get (repr_vector_iff.1 hr).2 hu hi
    simp only [chunkPos, PathPrefix.perChunk, if_neg hb, Nat.div_one] at hp ⊢
    exact ⟨m, (getter_two_pow_add n hp).trans hm, hrm⟩
  case case4 fs vs i ft x hvi hfi =>
    unfold subVal at hs; simp only [hfi, hvi] at hs
    cases hs
    obtain ⟨hp, rfl⟩ := static_idx hg
    unfold Impl.Repr at hr
    obtain ⟨ns, hf, hct⟩ := hr
    obtain ⟨hi, hrep⟩ := reprFields_get hf i _ _ ‹fs[i]? = some t'› ‹vs[i]? = some v'›
    have e : chunkPos (.container fs) i = i := Nat.div_one i
    rw [e] at hp ⊢
    exact ⟨_, (getter_two_pow_add n hp).trans (ct_get hct hi), hrep⟩
  case case12 hasNone opts x i =>
    unfold subVal at hs; simp only [if_true, Option.some.injEq, Prod.mk.injEq] at hs
    obtain ⟨ht, rfl⟩ := hs
    obtain ⟨_, rfl⟩ := static_idx hg
    unfold Impl.Repr at hr
    obtain ⟨hsel, c, rfl, hr⟩ := hr
    have hc : ¬ (hasNone && i == 0) = true := fun hc => by
      rw [optType, if_pos hc] at ht; cases ht
    rw [optType, if_neg hc] at ht
    rw [if_neg hc] at hr
    exact ⟨_, getter_two _ _, reprOpt_get hr _ ht⟩

/-- One step: in a tree representing `v : t`, the node at the static index of key `k` represents the
    sub-value addressed by `k` (element, field, selected union option, length, selector). -/
theorem step_addresses (H : Hash) (t : Ty) (v : Val) (n : Node) (k : Key) (g : Nat)
    (t' : Ty) (v' : Val) (hr : Impl.Repr H t v n) (hwf : t.wf = true) (hlim : limitsOk t = true)
    (hg : keyToStaticGindex t k = some g) (hu : unpackedKey t k = true)
    (hs : subVal t v k = some (some t', v')) :
    ∃ m, getter n g = some m ∧ Impl.Repr H t' v' m :=
  step_addresses_core H t v n k g t' v' hr hwf (fun _ => hlim) hg hu hs

/-- `'__selector__'` needs no bound either (a well-formed union has at most 128 options) -/
theorem step_addresses_sel (H : Hash) (t : Ty) (v : Val) (n : Node) (g : Nat)
    (t' : Ty) (v' : Val) (hr : Impl.Repr H t v n) (hwf : t.wf = true)
    (hg : keyToStaticGindex t .sel = some g) (hs : subVal t v .sel = some (some t', v')) :
    ∃ m, getter n g = some m ∧ Impl.Repr H t' v' m :=
  step_addresses_core H t v n .sel g t' v' hr hwf (fun h => by cases h) hg
    (by cases t <;> rfl) hs

theorem step_addresses_root (H : Hash) (t : Ty) (v : Val) (n : Node) (k : Key) (g : Nat)
    (t' : Ty) (v' : Val) (hr : Impl.Repr H t v n) (hwf : t.wf = true) (hlim : limitsOk t = true)
    (hg : keyToStaticGindex t k = some g) (hu : unpackedKey t k = true)
    (hs : subVal t v k = some (some t', v')) (hwf' : t'.wf = true) :
    ∃ m, getter n g = some m ∧ m.root H = Spec.htr H t' v' := by
  obtain ⟨m, hm, hrm⟩ := step_addresses H t v n k g t' v' hr hwf hlim hg hu hs
  exact ⟨m, hm, repr_root H t' v' m hwf' hrm⟩

theorem navigateType_limitsOk (t : Ty) (k : Key) (t' : Ty) (hlim : limitsOk t = true)
    (h : navigateType t k = some (some t')) : limitsOk t' = true := by
  have hmem : ∀ {fs : List Ty}, limitsOkList fs = true → t' ∈ fs → limitsOk t' = true :=
    fun hl hm =>
      let ⟨i, hi⟩ := List.getElem?_of_mem hm
      limitsOkList_getElem? _ hl i t' hi
  rcases navigateType_cases h with hm | rfl | rfl | rfl
  · cases t <;> simp only [Ty.components, List.mem_singleton, List.not_mem_nil] at hm <;>
      simp only [limitsOk, Bool.and_eq_true] at hlim
    · exact hm ▸ hlim
    · exact hm ▸ hlim.2
    · exact hmem hlim hm
    · exact hmem hlim hm
  all_goals rfl

/-- One key of the value, everything the path induction needs: the key is accepted by the type and
    has a non-zero static index, and the walk over any longer key sequence continues from the
    concatenated index and the reached type -/
theorem step_total (H : Hash) {t : Ty} {v : Val} {n : Node} {k : Key} {ot : Option Ty} {v' : Val}
    (hr : Impl.Repr H t v n) (hs : subVal t v k = some (ot, v')) :
    ∃ g, keyToStaticGindex t k = some g ∧ g ≠ 0 ∧ navigateType t k = some ot ∧
      ∀ root ks, walk root (some t) (k :: ks) = walk (concatStep root g) ot ks := by
  have hn := subVal_navigateType t v k ot v' (repr_wt H t v n hr) hs
  obtain ⟨g, hg⟩ := static_exists hn
  exact ⟨g, hg, keyToStaticGindex_ne_zero t k g hg, hn, walk_cons_of_step hn hg⟩

/-- Whole paths, general form (running index `root` inside an enclosing tree `n0`).  The bound on
    the limits is needed only if the path contains a `'__len__'` key. -/
theorem path_addresses_gen (H : Hash) (keys : List Key) :
    ∀ (t : Ty) (v : Val) (n : Node) (root : Nat) (n0 : Node) (t' : Ty) (v' : Val),
      Impl.Repr H t v n → t.wf = true → (Key.len ∈ keys → limitsOk t = true) →
      subValPath (some t) v keys = some (some t', v') →
      root ≠ 0 → getter n0 root = some n →
      ∃ g m, walk root (some t) keys = some (g, some t') ∧ g ≠ 0 ∧ getter n0 g = some m ∧
        Impl.Repr H t' v' m ∧ t'.wf = true := by
  induction keys with
  | nil =>
    intro t v n root n0 t' v' hr hwf _ hp hroot hget
    cases hp
    exact ⟨root, n, rfl, hroot, hget, hr, hwf⟩
  | cons k ks ih =>
    intro t v n root n0 t' v' hr hwf hlim hp hroot hget
    rw [subValPath] at hp
    split at hp
    · next hu =>
      split at hp
      · cases hp
      · next ot1 v1 hs =>
        cases ot1 with
        | none => cases ks <;> cases hp
        | some t1 =>
          obtain ⟨g1, hg1, hg1ne, hn, hcons⟩ := step_total H hr hs
          obtain ⟨m1, hm1, hrm1⟩ := step_addresses_core H t v n k g1 t1 v1 hr hwf
            (fun hk => hlim (hk ▸ List.mem_cons_self)) hg1 hu hs
          obtain ⟨g, m, hg, hrest⟩ := ih t1 v1 m1 (concatStep root g1) n0 t' v' hrm1
            (navigateType_wf t k t1 hwf hn)
            (fun hk => navigateType_limitsOk t k t1 (hlim (List.mem_cons_of_mem _ hk)) hn) hp
            (concatStep_ne_zero hroot)
            ((getter_concatStep n0 hroot hg1ne).trans (hget ▸ hm1))
          exact ⟨g, m, (hcons root ks).trans hg, hrest⟩
    · cases hp

/-- Whole paths: if `n` represents `v : t` and the key path is valid for the VALUE and stays in
    unpacked positions, ending at sub-value `v' : t'`, then the library's static path index exists
    and the node found there represents `v'`; in particular it has the hash-tree-root of `v'`. -/
theorem path_addresses (H : Hash) (t : Ty) (v : Val) (n : Node) (keys : List Key) (t' : Ty)
    (v' : Val) (hr : Impl.Repr H t v n) (hwf : t.wf = true) (hlim : limitsOk t = true)
    (hp : subValPath (some t) v keys = some (some t', v')) :
    ∃ g m, Impl.pathGindex t keys = some g ∧ getter n g = some m ∧ Impl.Repr H t' v' m ∧
      m.root H = Spec.htr H t' v' := by
  obtain ⟨g, m, hg, _, hm, hrm, hwf'⟩ :=
    path_addresses_gen H keys t v n 1 n t' v' hr hwf (fun _ => hlim) hp (by decide) (getter_one n)
  exact ⟨g, m, pathGindex_eq_some.2 ⟨_, hg⟩, hm, hrm, repr_root H t' v' m hwf' hrm⟩

/-- the same index is the SSZ-spec generalized index of the path -/
theorem path_addresses_spec (H : Hash) (t : Ty) (v : Val) (n : Node) (keys : List Key) (t' : Ty)
    (v' : Val) (hr : Impl.Repr H t v n) (hwf : t.wf = true) (hlim : limitsOk t = true)
    (hp : subValPath (some t) v keys = some (some t', v')) :
    ∃ g m, Spec.gindex 1 (some t) keys = some g ∧ getter n g = some m ∧
      m.root H = Spec.htr H t' v' := by
  obtain ⟨g, m, hg, hm, _, hroot⟩ := path_addresses H t v n keys t' v' hr hwf hlim hp
  exact ⟨g, m, by rw [← pathGindex_eq_spec t keys hwf]; exact hg, hm, hroot⟩

/-- the contents subtree of a tree with root shape `if hasMixIn t then (c, r) else c` -/
theorem getter_contents (t : Ty) (c r : Node) {pos : Nat} (h : pos < 2 ^ contentsDepth t) :
    getter (if hasMixIn t then .pair c r else c) (2 ^ treeDepth t + pos)
      = getAt c pos (contentsDepth t) := by
  unfold treeDepth
  split
  · exact getter_mixin c r h
  · exact getter_two_pow_add c h

theorem packed_elem_seq (H : Hash) (et : Ty) (vs : List Val) (i : Nat) (hwf : et.wf = true)
    (hb : et.isBasic = true) (hwt : ∀ x ∈ vs, WT et x = true) (hi : i < vs.length) :
    ∃ hj : i / (32 / et.basicSize) < (packInts et.basicSize (vs.map numOf)).length,
      readBasicAt H et (.leaf (packInts et.basicSize (vs.map numOf))[i / (32 / et.basicSize)])
        (i % (32 / et.basicSize)) = some vs[i] := by
  have hj : i / (32 / et.basicSize) < (packInts et.basicSize (vs.map numOf)).length := by
    rw [packInts_length' et hwf hb, List.length_map]
    exact (DefaultNode.packed_chunk_lt et hwf hb vs.length i hi).1
  refine ⟨hj, readBasicAt_slice H et vs[i] hb (hwt _ (List.getElem_mem _)) _ _ ?_⟩
  have := packInts_getElem_slice et.basicSize (vs.map numOf) i (per_pos et hwf hb)
    (by simpa using hi) hj
  simpa using this

theorem packBits_pos_lt (bs : List Bool) {i : Nat} (hi : i < bs.length) :
    i / 256 < (packBits bs).length := by
  rw [packBits_length, cdiv_8_cdiv_32]
  exact div_lt_cdiv (by decide) hi

theorem packBytes_pos_lt (bs : List UInt8) {i : Nat} (hi : i < bs.length) :
    i / 32 < (packBytes bs).length := by
  rw [ConstructRoot.packBytes_length]
  exact div_lt_cdiv (by decide) hi

/-- bit `i` of a bitfield is bit `i % 256` of chunk `i / 256` -/
theorem packed_elem_bits (bs : List Bool) (i : Nat) (hi : i < bs.length)
    (hj : i / 256 < (packBits bs).length) : bitOfChunk ((packBits bs)[i / 256]) i = bs[i] :=
  bitOfChunk_packBits bs i hi hj

/-- how the views decode element `i` of a packed type from the chunk that holds it
    (`basic_view_from_backing(chunk, i % per)`, the bit test of `BitsView.get`, byte indexing) -/
def elemOfChunk (H : Hash) : Ty → Chunk → Nat → Option Val
  | .list et _, c, i => readBasicAt H et (.leaf c) (i % (32 / et.basicSize))
  | .vector et _, c, i => readBasicAt H et (.leaf c) (i % (32 / et.basicSize))
  | .bitlist _, c, i => some (.num (if bitOfChunk c i then 1 else 0))
  | .bitvector _, c, i => some (.num (if bitOfChunk c i then 1 else 0))
  | .bytelist _, c, i => (c[i % 32]?).map fun b => .num b.toNat
  | .bytevector _, c, i => (c[i % 32]?).map fun b => .num b.toNat
  | _, _, _ => none

/-- Layout of a packed value: `per` elements share a chunk, every element of the value lies in one
    of the chunks and decodes from it, and the chunks are the leaves of the contents subtree -/
theorem packed_layout (H : Hash) (t : Ty) (v : Val) (n : Node) (cs : List Chunk) (per : Nat)
    (hr : Impl.Repr H t v n) (hwf : t.wf = true) (hp : packedChunks t v = some (cs, per)) :
    (∀ i, chunkPos t i = i / per) ∧
    (∀ i ot x, subVal t v (.idx i) = some (ot, x) →
      ∃ hj : i / per < cs.length, elemOfChunk H t cs[i / per] i = some x) ∧
    ∃ c r, ChunkTree H (contentsDepth t) (cs.map .leaf) c ∧
      n = if hasMixIn t then .pair c r else c := by
  -- cases in the order of the patterns of `packedChunks`: list and vector (basic, not basic),
  -- bitlist, bitvector, bytelist, bytevector, catch-all
  fun_cases packedChunks t v
  case case9 =>
    rw [packedChunks] at hp
    · cases hp
    all_goals assumption
  case case2 et lim vs hb => simp only [packedChunks, hb] at hp; cases hp
  case case4 et lim vs hb => simp only [packedChunks, hb] at hp; cases hp
  case case1 et lim vs hb =>
    simp only [packedChunks, hb, if_true, Option.some.injEq, Prod.mk.injEq] at hp
    obtain ⟨rfl, rfl⟩ := hp
    obtain ⟨_, c, rfl, hsr⟩ := repr_list_iff.1 hr
    rw [SeqRepr, if_pos hb] at hsr
    refine ⟨fun i => by simp only [chunkPos, PathPrefix.perChunk, if_pos hb], fun i ot x hs => ?_,
      c, _, hsr.2, rfl⟩
    obtain ⟨hi, he⟩ := map_getElem?_eq_some hs
    cases he
    exact packed_elem_seq H et vs i hwf hb hsr.1 hi
  case case3 et len vs hb =>
    simp only [packedChunks, hb, if_true, Option.some.injEq, Prod.mk.injEq] at hp
    obtain ⟨rfl, rfl⟩ := hp
    have hsr := (repr_vector_iff.1 hr).2
    rw [SeqRepr, if_pos hb] at hsr
    refine ⟨fun i => by simp only [chunkPos, PathPrefix.perChunk, if_pos hb], fun i ot x hs => ?_,
      n, n, hsr.2, rfl⟩
    obtain ⟨hi, he⟩ := map_getElem?_eq_some hs
    cases he
    exact packed_elem_seq H et vs i (Ty.wf_vector hwf).2 hb hsr.1 hi
  case case5 lim bs =>
    cases hp
    unfold Impl.Repr at hr
    obtain ⟨_, c, rfl, hct⟩ := hr
    refine ⟨fun _ => rfl, fun i ot x hs => ?_, c, _, hct, rfl⟩
    obtain ⟨hi, he⟩ := map_getElem?_eq_some hs
    cases he
    have hj := packBits_pos_lt bs hi
    exact ⟨hj, by simp only [elemOfChunk, bitOfChunk_packBits _ i hi hj]⟩
  case case6 len bs =>
    cases hp
    unfold Impl.Repr at hr
    refine ⟨fun _ => rfl, fun i ot x hs => ?_, n, n, hr.2, rfl⟩
    obtain ⟨hi, he⟩ := map_getElem?_eq_some hs
    cases he
    have hj := packBits_pos_lt bs hi
    exact ⟨hj, by simp only [elemOfChunk, bitOfChunk_packBits _ i hi hj]⟩
  case case7 lim bs =>
    cases hp
    unfold Impl.Repr at hr
    obtain ⟨_, c, rfl, hct⟩ := hr
    refine ⟨fun _ => rfl, fun i ot x hs => ?_, c, _, hct, rfl⟩
    obtain ⟨hi, he⟩ := map_getElem?_eq_some hs
    cases he
    have hj := packBytes_pos_lt bs hi
    exact ⟨hj, by simp only [elemOfChunk, ConstructRoot.packBytes_getElem _ i hi hj, Option.map_some]⟩
  case case8 len bs =>
    cases hp
    unfold Impl.Repr at hr
    refine ⟨fun _ => rfl, fun i ot x hs => ?_, n, n, hr.2, rfl⟩
    obtain ⟨hi, he⟩ := map_getElem?_eq_some hs
    cases he
    have hj := packBytes_pos_lt bs hi
    exact ⟨hj, by simp only [elemOfChunk, ConstructRoot.packBytes_getElem _ i hi hj, Option.map_some]⟩

/-- Packed positions, one step: for a sequence of basic elements, a bitfield or a byte array, the
    node at the static index of element `i` is the leaf chunk number `i / per` of the packed
    contents (`per` = elements per chunk: `32 / size`, 256 bits, 32 bytes), and decoding position
    `i` of that chunk yields exactly the addressed element `subVal t v (.idx i)`. -/
theorem packed_addresses_elem (H : Hash) (t : Ty) (v : Val) (n : Node) (i g : Nat)
    (cs : List Chunk) (per : Nat) (ot : Option Ty) (x : Val)
    (hr : Impl.Repr H t v n) (hwf : t.wf = true)
    (hp : packedChunks t v = some (cs, per)) (hs : subVal t v (.idx i) = some (ot, x))
    (hg : keyToStaticGindex t (.idx i) = some g) :
    ∃ hj : i / per < cs.length, getter n g = some (.leaf cs[i / per]) ∧
      elemOfChunk H t cs[i / per] i = some x := by
  obtain ⟨hpos, helem, c, r, hct, rfl⟩ := packed_layout H t v n cs per hr hwf hp
  obtain ⟨hj, hx⟩ := helem i ot x hs
  obtain ⟨hlt, rfl⟩ := static_idx hg
  refine ⟨hj, ?_, hx⟩
  rw [getter_contents t c r hlt, hpos, ct_get hct (by rw [List.length_map]; exact hj),
    List.getElem_map]

/-- Packed positions at the end of a path, general form: the bound on the limits is needed only if
    the path contains a `'__len__'` key -/
theorem path_packed_addresses_gen (H : Hash) (t : Ty) (v : Val) (n : Node) (keys : List Key)
    (t' : Ty) (v' : Val) (i : Nat) (cs : List Chunk) (per : Nat) (ot : Option Ty) (x : Val)
    (hr : Impl.Repr H t v n) (hwf : t.wf = true) (hlim : Key.len ∈ keys → limitsOk t = true)
    (hpath : subValPath (some t) v keys = some (some t', v'))
    (hp : packedChunks t' v' = some (cs, per)) (hs : subVal t' v' (.idx i) = some (ot, x)) :
    ∃ g, ∃ hj : i / per < cs.length, Impl.pathGindex t (keys ++ [.idx i]) = some g ∧
      getter n g = some (.leaf cs[i / per]) ∧ elemOfChunk H t' cs[i / per] i = some x := by
  obtain ⟨g0, m, hg0, hg0ne, hm, hrm, hwf'⟩ :=
    path_addresses_gen H keys t v n 1 n t' v' hr hwf hlim hpath (by decide) (getter_one n)
  obtain ⟨g', hg', hg'ne, _, hcons⟩ := step_total H hrm hs
  obtain ⟨hj, hget, helem⟩ := packed_addresses_elem H t' v' m i g' cs per ot x hrm hwf' hp hs hg'
  refine ⟨concatStep g0 g', hj, pathGindex_eq_some.2 ⟨ot, ?_⟩, ?_, helem⟩
  · rw [walk_append, hg0, Option.bind_some, hcons, walk_nil]
  · rw [getter_concatStep n hg0ne hg'ne, hm]
    exact hget

/-- Packed positions at the end of a path: an unpacked path to `v' : t'` followed by an element key
    of the packed value `v'` — the library's static path index exists and the node found there is
    the leaf chunk holding the element, from which the element is decoded. -/
theorem path_packed_addresses (H : Hash) (t : Ty) (v : Val) (n : Node) (keys : List Key)
    (t' : Ty) (v' : Val) (i : Nat) (cs : List Chunk) (per : Nat) (ot : Option Ty) (x : Val)
    (hr : Impl.Repr H t v n) (hwf : t.wf = true) (hlim : limitsOk t = true)
    (hpath : subValPath (some t) v keys = some (some t', v'))
    (hp : packedChunks t' v' = some (cs, per)) (hs : subVal t' v' (.idx i) = some (ot, x)) :
    ∃ g, ∃ hj : i / per < cs.length, Impl.pathGindex t (keys ++ [.idx i]) = some g ∧
      getter n g = some (.leaf cs[i / per]) ∧ elemOfChunk H t' cs[i / per] i = some x :=
  path_packed_addresses_gen H t v n keys t' v' i cs per ot x hr hwf (fun _ => hlim) hpath hp hs

/-! Keys of the TYPE that are not keys of the VALUE; non-vacuity.

The static index depends on the type only: for a list with limit 4 holding one element, the keys
`1 … 3` are accepted by `navigate_type` / `key_to_static_gindex` (and by the SSZ
`get_generalized_index`) although the value has no such element; `subVal` is `none` there, and
nothing is claimed about the node: in the constructor tree, index `1` finds the zero chunk (not a
representation of the element type) and index `2` runs into a zero summary (NavigationError). -/

section Examples
variable (H : Hash)

private def tEx : Ty := .container [.uint 8, .list (.container [.uint 1, .uint 1]) 4]
private def vEx : Val := .seq [.num 7, .seq [.seq [.num 1, .num 2]]]
private def tPk : Ty := .container [.uint 8, .list (.uint 2) 100]
private def vPk : Val := .seq [.num 7, .seq ((List.range 40).map .num)]

example : tEx.wf = true ∧ limitsOk tEx = true ∧ WT tEx vEx = true := by decide +kernel

/-- a path valid for the value: field 1, element 0, field 1 -/
example : subValPath (some tEx) vEx [.idx 1, .idx 0, .idx 1] = some (some (.uint 1), .num 2) := rfl
example : Impl.pathGindex tEx [.idx 1, .idx 0, .idx 1] = some 49 := by decide +kernel

/-- the hypotheses of `path_addresses` are satisfiable: the constructor tree of `vEx` -/
example : ∃ n m, Impl.construct H tEx vEx = some n ∧ getter n 49 = some m ∧
    m.root H = Spec.htr H (.uint 1) (.num 2) := by
  obtain ⟨n, hc, hr⟩ := ConstructRoot.repr_exists H tEx vEx (by decide +kernel) (by decide +kernel)
  obtain ⟨g, m, hg, hm, _, hroot⟩ :=
    path_addresses H tEx vEx n [.idx 1, .idx 0, .idx 1] (.uint 1) (.num 2) hr (by decide +kernel)
      (by decide +kernel) rfl
  have : g = 49 := by
    have h49 : Impl.pathGindex tEx [.idx 1, .idx 0, .idx 1] = some 49 := by decide +kernel
    rw [h49] at hg; exact (Option.some.inj hg).symm
  subst this
  exact ⟨n, m, hc, hm, hroot⟩

/-- keys beyond the current length but below the limit: static index defined, no sub-value -/
example : Impl.pathGindex tEx [.idx 1, .idx 1] = some 25 ∧ Impl.pathGindex tEx [.idx 1, .idx 2] = some 26
    ∧ Impl.pathGindex tEx [.idx 1, .idx 4] = none := by decide +kernel
example : subValPath (some tEx) vEx [.idx 1, .idx 1] = none ∧
    subValPath (some tEx) vEx [.idx 1, .idx 2] = none := ⟨rfl, rfl⟩
example : (Impl.construct H tEx vEx).bind (fun n => getter n 25) = some (zeroNode H 0) := rfl
example : (Impl.construct H tEx vEx).bind (fun n => getter n 26) = none := rfl

/-- a packed position at the end of a path: element 37 of a `List[uint16, 100]` lives in chunk 2 -/
example : subValPath (some tPk) vPk [.idx 1] = some (some (.list (.uint 2) 100), .seq ((List.range 40).map .num)) := rfl
example : Impl.pathGindex tPk [.idx 1, .idx 37] = some 50 := by decide +kernel
example : subVal (.list (.uint 2) 100) (.seq ((List.range 40).map .num)) (.idx 37)
    = some (some (.uint 2), .num 37) := rfl

end Examples

end Rmk.PathAddress
