/-
The diff of a tree with its written version is exactly the diff at the written position.

`m` is `n` with `v` written at the path `p` (where `old` was).  When the root of every node on the
path changes (hypothesis `PathDiffers`, implied by `old.root ≠ v.root` for a collision-free hash),
`getDiffPos H n m` is `getDiffPos H old v` with `p` prepended to every position.  An EXPANDING write
through a (zero) summary leaf at `q` reports the one entry `(q, the leaf, expandSet H r v)`.
-/
import Rmk.Proofs.DiffHistory
import Rmk.Proofs.TreeLaws
namespace Rmk.DiffOfWrite
open Rmk

/-- the root of every node on the path `p` (all prefixes, `p` itself included) differs between
    the trees `n` and `m` -/
abbrev PathDiffers (H : Hash) (n m : Node) (p : List Bool) : Prop :=
  ∀ k ≤ p.length,
    ((getPath n (p.take k)).map (·.root H)) ≠ ((getPath m (p.take k)).map (·.root H))

theorem PathDiffers.head {H : Hash} {n m : Node} {p : List Bool} (h : PathDiffers H n m p) :
    n.root H ≠ m.root H := by
  have := h 0 (Nat.zero_le _)
  simpa using this

theorem PathDiffers.tail {H : Hash} {l r l' r' : Node} {b : Bool} {bs : List Bool}
    (h : PathDiffers H (.pair l r) (.pair l' r') (b :: bs)) :
    PathDiffers H (if b then r else l) (if b then r' else l') bs := by
  intro k hk
  cases b <;> exact h (k + 1) (Nat.succ_le_succ hk)

theorem PathDiffers.last {H : Hash} {n m : Node} {p : List Bool} {old v : Node}
    (h : PathDiffers H n m p) (hg : getPath n p = some old) (hm : getPath m p = some v) :
    old.root H ≠ v.root H := by
  have := h p.length (Nat.le_refl _)
  simpa [hg, hm] using this

/-- for a collision-free hash, a change of the root at `p` shows at every node on the path -/
theorem pathDiffers_of_inj (H : Hash) (hH : Injective2 H) (n m : Node) (p : List Bool) (old v : Node)
    (hg : getPath n p = some old) (hm : getPath m p = some v) (hne : old.root H ≠ v.root H) :
    PathDiffers H n m p := by
  intro k _ heq
  rw [← List.take_append_drop k p, getPath_append] at hg hm
  obtain ⟨u, hu, hg⟩ := Option.bind_eq_some_iff.1 hg
  obtain ⟨w, hw, hm⟩ := Option.bind_eq_some_iff.1 hm
  rw [hu, hw] at heq
  exact hne (root_getPath_of_root_eq H hH (p.drop k) u w old v (Option.some.inj heq) hg hm)

theorem map_prepend_nil (l : List DiffEntry) :
    l.map (fun (x : DiffEntry) => match x with | (q, x, y) => (([] : List Bool) ++ q, x, y)) = l := by
  induction l with
  | nil => rfl
  | cons a as ih => simp

/-- Positioned diff of a write (no assumption on the hash): when the root of every node on the path
    changes, the diff of `n` with `m = n[p := v]` is the diff of the old and the new node at `p`,
    moved to `p`. -/
theorem diffPos_of_write (H : Hash) (n m : Node) (p : List Bool) (old v : Node)
    (hg : getPath n p = some old) (hs : setPath H false n p v = some m) (hd : PathDiffers H n m p) :
    getDiffPos H n m = (getDiffPos H old v).map (fun (q, x, y) => (p ++ q, x, y)) := by
  induction p generalizing n m with
  | nil =>
    rw [getPath_nil] at hg
    rw [setPath_nil] at hs
    cases hg
    cases hs
    exact (map_prepend_nil _).symm
  | cons b bs ih =>
    cases n with
    | leaf c => cases hg
    | pair l r =>
      rw [setPath_pair_cons] at hs
      -- the sibling of the written child is unchanged and reports nothing
      cases b with
      | false =>
        obtain ⟨l', hl, rfl⟩ := Option.map_eq_some_iff.1 hs
        rw [getDiffPos_pair_of_ne H _ _ _ _ hd.head, getDiffPos_of_root_eq H r r rfl,
          ih l l' hg hl hd.tail, List.map_nil, List.append_nil, List.map_map]
        rfl
      | true =>
        obtain ⟨r', hr, rfl⟩ := Option.map_eq_some_iff.1 hs
        rw [getDiffPos_pair_of_ne H _ _ _ _ hd.head, getDiffPos_of_root_eq H l l rfl,
          ih r r' hg hr hd.tail, List.map_nil, List.nil_append, List.map_map]
        rfl

theorem pathDiffers_of_write_inj (H : Hash) (hH : Injective2 H) (e : Bool) (n m : Node) (p : List Bool)
    (old v : Node) (hg : getPath n p = some old) (hs : setPath H e n p v = some m)
    (hne : old.root H ≠ v.root H) : PathDiffers H n m p :=
  pathDiffers_of_inj H hH n m p old v hg (getPath_setPath_same H e n p v m hs) hne

/-- Positioned diff of a write for a collision-free hash: it is enough that the written node's root
    differs from the old one. -/
theorem diffPos_of_write_inj (H : Hash) (hH : Injective2 H) (n m : Node) (p : List Bool) (old v : Node)
    (hg : getPath n p = some old) (hs : setPath H false n p v = some m)
    (hne : old.root H ≠ v.root H) :
    getDiffPos H n m = (getDiffPos H old v).map (fun (q, x, y) => (p ++ q, x, y)) :=
  diffPos_of_write H n m p old v hg hs (pathDiffers_of_write_inj H hH false n m p old v hg hs hne)

/-- `get_diff(n, n[p := v]) = get_diff(old, v)`. -/
theorem diff_of_write (H : Hash) (n m : Node) (p : List Bool) (old v : Node)
    (hg : getPath n p = some old) (hs : setPath H false n p v = some m)
    (hd : ∀ k ≤ p.length,
      ((getPath n (p.take k)).map (·.root H)) ≠ ((getPath m (p.take k)).map (·.root H))) :
    getDiff H n m = getDiff H old v := by
  rw [getDiff_eq_map, getDiff_eq_map, diffPos_of_write H n m p old v hg hs hd, List.map_map]
  rfl

theorem diff_of_write_inj (H : Hash) (hH : Injective2 H) (n m : Node) (p : List Bool) (old v : Node)
    (hg : getPath n p = some old) (hs : setPath H false n p v = some m)
    (hne : old.root H ≠ v.root H) :
    getDiff H n m = getDiff H old v :=
  diff_of_write H n m p old v hg hs (pathDiffers_of_write_inj H hH false n m p old v hg hs hne)

theorem diffPos_of_leaf_write (H : Hash) (n m : Node) (p : List Bool) (old v : Node)
    (hg : getPath n p = some old) (hs : setPath H false n p v = some m) (hd : PathDiffers H n m p)
    (hl : old.isLeaf = true ∨ v.isLeaf = true) :
    getDiffPos H n m = [(p, old, v)] := by
  have hne : old.root H ≠ v.root H := hd.last hg (getPath_setPath_same H false n p v m hs)
  rw [diffPos_of_write H n m p old v hg hs hd, getDiffPos_of_isLeaf H old v hl hne]
  simp

/-- Diff of a leaf write: when the old and the new node are not both pairs (e.g. both leaves) the
    diff is the single pair `(old, v)`. -/
theorem diff_of_leaf_write (H : Hash) (n m : Node) (p : List Bool) (old v : Node)
    (hg : getPath n p = some old) (hs : setPath H false n p v = some m)
    (hd : ∀ k ≤ p.length,
      ((getPath n (p.take k)).map (·.root H)) ≠ ((getPath m (p.take k)).map (·.root H)))
    (hl : old.isLeaf = true ∨ v.isLeaf = true) :
    getDiff H n m = [(old, v)] := by
  rw [getDiff_eq_map, diffPos_of_leaf_write H n m p old v hg hs hd hl]
  rfl

theorem diff_of_leaf_write_inj (H : Hash) (hH : Injective2 H) (n m : Node) (p : List Bool) (old v : Node)
    (hg : getPath n p = some old) (hs : setPath H false n p v = some m)
    (hne : old.root H ≠ v.root H) (hl : old.isLeaf = true ∨ v.isLeaf = true) :
    getDiff H n m = [(old, v)] :=
  diff_of_leaf_write H n m p old v hg hs
    (pathDiffers_of_write_inj H hH false n m p old v hg hs hne) hl

theorem root_of_noop_write (H : Hash) (n m : Node) (p : List Bool) (old v : Node)
    (hg : getPath n p = some old) (hs : setPath H false n p v = some m)
    (he : old.root H = v.root H) : m.root H = n.root H := by
  rw [setPath_root H n p v m hs, ← he, rootWith_self H n p old hg]

theorem diff_of_noop_write (H : Hash) (n m : Node) (p : List Bool) (old v : Node)
    (hg : getPath n p = some old) (hs : setPath H false n p v = some m)
    (he : old.root H = v.root H) : getDiff H n m = [] :=
  getDiff_root_eq H n m (root_of_noop_write H n m p old v hg hs he).symm

theorem diffPos_of_noop_write (H : Hash) (n m : Node) (p : List Bool) (old v : Node)
    (hg : getPath n p = some old) (hs : setPath H false n p v = some m)
    (he : old.root H = v.root H) : getDiffPos H n m = [] :=
  getDiffPos_of_root_eq H n m (root_of_noop_write H n m p old v hg hs he).symm

/-- an expanding write whose path leaves the tree at the leaf at `q` is the plain write of the
    expanded subtree at `q` -/
theorem setPath_expand_through_leaf (H : Hash) (n m : Node) (q r : List Bool) (c : Chunk) (v : Node)
    (hg : getPath n q = some (.leaf c)) (hs : setPath H true n (q ++ r) v = some m) :
    setPath H false n q (expandSet H r v) = some m := by
  induction q generalizing n m with
  | nil =>
    rw [getPath_nil] at hg
    cases hg
    cases r with
    | nil => exact hs
    | cons b bs =>
      rw [List.nil_append, setPath_leaf_cons] at hs
      exact (Option.ite_none_right_eq_some.1 hs).2
  | cons a as ih =>
    cases n with
    | leaf x => cases hg
    | pair l rr =>
      rw [getPath_pair_cons] at hg
      rw [List.cons_append, setPath_pair_cons] at hs
      rw [setPath_pair_cons]
      cases a <;>
      · obtain ⟨x, hx, rfl⟩ := Option.map_eq_some_iff.1 hs
        exact congrArg (Option.map _) (ih _ x hg hx)

/-- Diff of an expanding write, general leaf: if the path `q ++ r` of an expanding write leaves the
    tree at a leaf at `q` (necessarily the zero summary of height `r.length` when `r ≠ []`), and
    the roots of all nodes on `q` change, then exactly the position `q` is reported, with the
    leaf and the expanded subtree holding `v`. -/
theorem diffPos_of_expanding_write_leaf (H : Hash) (n m : Node) (q r : List Bool) (c : Chunk) (v : Node)
    (hg : getPath n q = some (.leaf c)) (hs : setPath H true n (q ++ r) v = some m)
    (hd : PathDiffers H n m q) : getDiffPos H n m = [(q, .leaf c, expandSet H r v)] :=
  diffPos_of_leaf_write H n m q (.leaf c) (expandSet H r v) hg
    (setPath_expand_through_leaf H n m q r c v hg hs) hd (.inl rfl)

theorem diffPos_of_expanding_write (H : Hash) (n m : Node) (p q r : List Bool) (d : Nat) (v : Node)
    (hp : p = q ++ r)
    (hg : getPath n q = some (.leaf (zeroHash H d))) (hs : setPath H true n p v = some m)
    (hd : PathDiffers H n m q) :
    getDiffPos H n m = [(q, .leaf (zeroHash H d), expandSet H r v)] := by
  subst hp
  exact diffPos_of_expanding_write_leaf H n m q r _ v hg hs hd

theorem diff_of_expanding_write (H : Hash) (n m : Node) (p q r : List Bool) (d : Nat) (v : Node)
    (hp : p = q ++ r)
    (hg : getPath n q = some (.leaf (zeroHash H d))) (hs : setPath H true n p v = some m)
    (hd : ∀ k ≤ q.length,
      ((getPath n (q.take k)).map (·.root H)) ≠ ((getPath m (q.take k)).map (·.root H))) :
    getDiff H n m = [(.leaf (zeroHash H d), expandSet H r v)] := by
  rw [getDiff_eq_map, diffPos_of_expanding_write H n m p q r d v hp hg hs hd]
  rfl

/-- expanding write, collision-free hash: it is enough that the expanded subtree's root differs
    from the summary -/
theorem diffPos_of_expanding_write_inj (H : Hash) (hH : Injective2 H) (n m : Node) (p q r : List Bool)
    (d : Nat) (v : Node) (hp : p = q ++ r)
    (hg : getPath n q = some (.leaf (zeroHash H d))) (hs : setPath H true n p v = some m)
    (hne : zeroHash H d ≠ (expandSet H r v).root H) :
    getDiffPos H n m = [(q, .leaf (zeroHash H d), expandSet H r v)] := by
  subst hp
  have hs' := setPath_expand_through_leaf H n m q r _ v hg hs
  exact diffPos_of_expanding_write H n m (q ++ r) q r d v rfl hg hs
    (pathDiffers_of_write_inj H hH false n m q _ _ hg hs' hne)

private def H0 : Hash := fun a b => a ++ b
private def ta : Node := .pair (.leaf [1]) (.pair (.leaf [2]) (.leaf [3]))
private def tb : Node := .pair (.leaf [1]) (.pair (.leaf [9]) (.leaf [3]))
private def tc : Node := .pair (.leaf [1]) (.pair (.pair (.leaf [4]) (.leaf [5])) (.leaf [3]))

/-- a leaf write in a depth-2 tree: hypotheses hold, conclusion is the concrete singleton -/
example : getDiffPos H0 ta tb = [([true, false], .leaf [2], .leaf [9])] :=
  diffPos_of_leaf_write H0 ta tb [true, false] (.leaf [2]) (.leaf [9])
    rfl rfl (by decide +kernel) (.inl rfl)

example : getDiff H0 ta tb = [(.leaf [2], .leaf [9])] :=
  diff_of_leaf_write H0 ta tb [true, false] (.leaf [2]) (.leaf [9])
    rfl rfl (by decide +kernel) (.inl rfl)

/-- the general law, instantiated; both sides evaluate to the same concrete list -/
example : getDiffPos H0 ta tc =
    (getDiffPos H0 (.leaf [2]) (.pair (.leaf [4]) (.leaf [5]))).map
      (fun (q, x, y) => ([true, false] ++ q, x, y)) :=
  diffPos_of_write H0 ta tc [true, false] (.leaf [2]) (.pair (.leaf [4]) (.leaf [5]))
    rfl rfl (by decide +kernel)
example : getDiffPos H0 ta tc = [([true, false], .leaf [2], .pair (.leaf [4]) (.leaf [5]))] := by decide +kernel

/-- a no-op write (same root under `H0`: `[4] ++ [5] = [4, 5]`) -/
example : getDiff H0 tc (.pair (.leaf [1]) (.pair (.leaf [4, 5]) (.leaf [3]))) = [] :=
  diff_of_noop_write H0 tc _ [true, false] (.pair (.leaf [4]) (.leaf [5])) (.leaf [4, 5])
    rfl rfl (by decide +kernel)

/-- an expanding write through the zero summary of height 1 at position `[true]` -/
example :
    getDiffPos H0 (.pair (.leaf [1]) (.leaf (zeroHash H0 1)))
        (.pair (.leaf [1]) (.pair (.leaf [7]) (.leaf (zeroHash H0 0)))) =
      [([true], .leaf (zeroHash H0 1), expandSet H0 [false] (.leaf [7]))] :=
  diffPos_of_expanding_write H0 _ _ [true, false] [true] [false] 1 (.leaf [7]) rfl
    rfl rfl (by decide +kernel)

end Rmk.DiffOfWrite
