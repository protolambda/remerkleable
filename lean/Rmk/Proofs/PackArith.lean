import Rmk.Impl.Layout
import Rmk.Proofs.BytesLemmas
import Rmk.Proofs.Gindex
import Rmk.Proofs.Merkleize
namespace Rmk
open Rmk.Impl

theorem lt_two_pow_getDepth {pos cc : Nat} (h : pos < cc) : pos < 2 ^ getDepth cc :=
  Nat.lt_of_lt_of_le h (two_pow_getDepth cc)

/-- rounding up keeps a position inside: `i < n → i / c < ⌈n / c⌉` -/
theorem div_lt_cdiv {i n c : Nat} (hc : 0 < c) (h : i < n) : i / c < (n + c - 1) / c :=
  (lt_ceil_div_iff hc n _).2 (Nat.lt_of_le_of_lt (Nat.mul_div_le i c) h)

theorem ceil_div_eq (per len : Nat) (hper : 0 < per) :
    (len + per - 1) / per = len / per + (if len % per = 0 then 0 else 1) := by
  have hlt : per - 1 < per := Nat.sub_lt hper Nat.one_pos
  rw [Nat.add_sub_assoc hper, Nat.add_div hper, Nat.div_eq_of_lt hlt, Nat.mod_eq_of_lt hlt,
    Nat.add_zero]
  by_cases hr : len % per = 0
  · rw [if_pos hr, hr, Nat.zero_add, if_neg (Nat.not_le.2 hlt)]
  · rw [if_neg hr, if_pos (by omega)]

theorem ceil_div_succ (per len : Nat) (hper : 0 < per) :
    (len + 1 + per - 1) / per = len / per + 1 := by
  rw [Nat.add_right_comm, Nat.add_sub_cancel, Nat.add_div_right _ hper]

theorem ceil_div_of_mod_eq_zero {per len : Nat} (hper : 0 < per) (hz : len % per = 0) :
    (len + per - 1) / per = len / per := by
  rw [ceil_div_eq _ _ hper, if_pos hz, Nat.add_zero]

theorem div_lt_ceil_div_of_mod_ne_zero {per len : Nat} (hper : 0 < per) (hz : len % per ≠ 0) :
    len / per < (len + per - 1) / per := by
  rw [ceil_div_eq _ _ hper, if_neg hz]
  exact Nat.lt_succ_self _

theorem ceil_div_pred {per len : Nat} (hper : 0 < per) (hpos : 0 < len) :
    (len + per - 1) / per = (len - 1) / per + 1 := by
  have e := ceil_div_succ per (len - 1) hper
  rwa [Nat.sub_add_cancel hpos] at e

/-- appending to a partly filled last chunk keeps the number of chunks -/
theorem ceil_div_append {per len : Nat} (hper : 0 < per) (hne : len % per ≠ 0) :
    (len + 1 + per - 1) / per = (len + per - 1) / per := by
  rw [ceil_div_succ _ _ hper, ceil_div_eq _ _ hper, if_neg hne]

/-- popping inside the last chunk keeps the number of chunks -/
theorem ceil_div_pop {per len : Nat} (hper : 0 < per) (hpos : 0 < len) (hne : (len - 1) % per ≠ 0) :
    (len - 1 + per - 1) / per = (len + per - 1) / per := by
  rw [ceil_div_pred hper hpos, ceil_div_eq _ _ hper, if_neg hne]

theorem div_mod_of (per q j : Nat) (h : j < per) :
    (q * per + j) / per = q ∧ (q * per + j) % per = j := by
  have hper : 0 < per := Nat.zero_lt_of_lt h
  constructor
  · rw [Nat.mul_comm, Nat.mul_add_div hper, Nat.div_eq_of_lt h, Nat.add_zero]
  · rw [Nat.mul_comm, Nat.mul_add_mod, Nat.mod_eq_of_lt h]

theorem le_mul_of_div_lt {n k p : Nat} (hp : 0 < p) (h : ∀ i, i < n → i / p < k) : n ≤ k * p := by
  cases n with
  | zero => exact Nat.zero_le _
  | succ m => exact (Nat.div_lt_iff_lt_mul hp).1 (h m (Nat.lt_succ_self m))

/-- chunks of a bitfield: bits to bytes to 32-byte chunks is bits to 256-bit chunks -/
theorem cdiv_8_cdiv_32 (n : Nat) : ((n + 7) / 8 + 31) / 32 = (n + 255) / 256 := by
  rw [← Nat.add_mul_div_right _ _ (by decide : 0 < 8), Nat.div_div_eq_div_mul, Nat.add_assoc]

/-! ### packed basic elements: `32 / size` per chunk -/

theorem basicSize_cases (et : Ty) (hwf : et.wf = true) (hb : et.isBasic = true) :
    et.basicSize = 1 ∨ et.basicSize = 2 ∨ et.basicSize = 4 ∨ et.basicSize = 8 ∨
      et.basicSize = 16 ∨ et.basicSize = 32 := by
  cases et with
  | uint nb => simpa only [Ty.wf, Ty.basicSize, Bool.or_eq_true, beq_iff_eq, or_assoc] using hwf
  | bool => exact .inl rfl
  | _ => cases hb

theorem perChunk_mul_basicSize (et : Ty) (hwf : et.wf = true) (hb : et.isBasic = true) :
    32 / et.basicSize * et.basicSize = 32 := by
  rcases basicSize_cases et hwf hb with h | h | h | h | h | h <;> rw [h]

theorem per_pos (et : Ty) (hwf : et.wf = true) (hb : et.isBasic = true) : 0 < 32 / et.basicSize :=
  Nat.pos_of_ne_zero fun h => by
    have := perChunk_mul_basicSize et hwf hb
    rw [h, Nat.zero_mul] at this
    exact absurd this (by decide)

/-- index of the chunk holding packed element `i`: `i // (32 // size) = i * size // 32` -/
theorem packedPos_eq {per s : Nat} (h : per * s = 32) (i : Nat) : i / per = i * s / 32 := by
  have hs : 0 < s := Nat.pos_of_ne_zero (by rintro rfl; cases h)
  rw [← h, Nat.mul_div_mul_right _ _ hs]

/-- number of chunks of `n` packed elements: `⌈n / per⌉ = ⌈n * size / 32⌉` -/
theorem packedLen_eq {per s : Nat} (h : per * s = 32) (n : Nat) :
    (n + per - 1) / per = (n * s + 31) / 32 := by
  have hs : 0 < s := Nat.pos_of_ne_zero (by rintro rfl; cases h)
  obtain ⟨p, rfl⟩ : ∃ p, per = p + 1 := ⟨per - 1, by cases per <;> simp at h ⊢⟩
  have e : n * s + 31 = s * (n + p) + (s - 1) := by
    rw [Nat.add_mul, Nat.one_mul] at h
    rw [Nat.mul_add, Nat.mul_comm s n, Nat.mul_comm s p]
    omega
  rw [e, ← h, Nat.mul_comm (p + 1) s, ← Nat.div_div_eq_div_mul, Nat.mul_add_div hs,
    Nat.div_eq_of_lt (Nat.sub_one_lt (Nat.ne_of_gt hs))]
  rfl

/-- the library's `to_chunk_length` agrees with the spec's `chunk_count` of a sequence -/
theorem chunkLen_eq_chunkCount (et : Ty) (n : Nat) (hwf : et.wf = true) :
    chunkLen et n = if et.isBasic then (n * et.basicSize + 31) / 32 else n := by
  unfold chunkLen
  by_cases hb : et.isBasic = true
  · rw [if_pos hb, if_pos hb]
    exact packedLen_eq (perChunk_mul_basicSize et hwf hb) n
  · rw [if_neg hb, if_neg hb]

end Rmk
