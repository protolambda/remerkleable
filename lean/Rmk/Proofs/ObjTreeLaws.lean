/-
`to_obj()` computed FROM THE TREE (`Impl.toObjTree`: read-only iterators + the tree-reading serialiser)
equals `to_obj` of the plain value (`Obj.toObj`) on every tree that represents the value.
-/
import Rmk.Impl.ObjTree
import Rmk.Proofs.ConstructRoot
import Rmk.Proofs.ItersLaws
import Rmk.Proofs.ListRel
import Rmk.Proofs.ReprBasics
import Rmk.Proofs.SerTree
import Rmk.Proofs.TypeLemmas
namespace Rmk.ObjTreeLaws
open Rmk Rmk.Impl Rmk.Spec Rmk.Obj Rmk.ReprBasics

theorem allSome_toObjTree (H : Hash) (et : Ty) (vs : List Val) (ns : List Node)
    (hall : AllRel (Impl.Repr H et) vs ns)
    (ih : ∀ v n, Impl.Repr H et v n → Impl.toObjTree H et n = some (Obj.toObj et v)) :
    allSome (ns.map fun c => Impl.toObjTree H et c) = some (vs.map (Obj.toObj et)) := by
  rw [allRel_map_eq (fun c => Impl.toObjTree H et c) (fun v => some (Obj.toObj et v)) hall
    fun v _ n hr => ih v n hr]
  exact allSome_map_some vs _ _ fun _ _ => rfl

mutual
/-- On every tree that represents `v` (whatever its history), the library's `to_obj()`, computed
    from the tree, is `to_obj` of the plain value. -/
theorem toObjTree_repr (H : Hash) (t : Ty) (v : Val) (n : Node) (hwf : t.wf = true)
    (hlim : ReprBasics.limitsOk t = true) (h : Impl.Repr H t v n) :
    Impl.toObjTree H t n = some (Obj.toObj t v) := by
  cases t with
  | uint nb | bool =>
    have hr : readBasicAt H _ n 0 = some v := repr_read H _ v n hwf hlim h
    unfold toObjTree
    rw [hr]
    rfl
  | bitvector k | bitlist k | bytevector k | bytelist k =>
    unfold toObjTree
    rw [SerTree.repr_ser H _ v n hwf hlim h]
    cases v <;> first | exact h.elim | rfl
  | vector et len =>
    cases v with
    | seq vs =>
      have hwf' := (Ty.wf_vector hwf).2
      unfold toObjTree toObj
      cases hb : et.isBasic with
      | true =>
        simp only [if_true, ItersLaws.reads_agree_packed_vector H et len vs n hwf' hb h, Option.map_some]
      | false =>
        obtain ⟨ns, hit, hall⟩ := ItersLaws.reads_agree_unpacked_vector H et len vs n hb h
        simp only [Bool.false_eq_true, if_false, hit, Option.map_some, allSome_toObjTree H et vs ns hall
          fun v n hr => toObjTree_repr H et v n hwf' hlim hr]
    | _ => exact h.elim
  | list et lim =>
    cases v with
    | seq vs =>
      have hwf' := Ty.wf_list hwf
      rw [limitsOk, Bool.and_eq_true, decide_eq_true_eq] at hlim
      have hlen : listLength H n = some vs.length := by
        obtain ⟨hle, c, rfl, _⟩ := h
        exact listLength_mixin H c _ (Nat.lt_of_le_of_lt hle hlim.1)
      unfold toObjTree toObj
      cases hb : et.isBasic with
      | true =>
        simp only [hlen, if_true, ItersLaws.reads_agree_packed_list H et lim vs n hwf' hb h,
          Option.map_some]
      | false =>
        obtain ⟨ns, hit, hall⟩ := ItersLaws.reads_agree_unpacked_list H et lim vs n hb h
        simp only [hlen, Bool.false_eq_true, if_false, hit, Option.map_some,
          allSome_toObjTree H et vs ns hall fun v n hr => toObjTree_repr H et v n hwf' hlim.2 hr]
    | _ => exact h.elim
  | container fs =>
    cases v with
    | seq vs =>
      obtain ⟨ns, hit, hf⟩ := ItersLaws.reads_agree_container H fs vs n h
      unfold toObjTree toObj
      simp only [hit, toObjTreeFields_repr H fs vs ns 0 (Ty.wf_container hwf).2 hlim hf, Option.map_some]
    | _ => exact h.elim
  | union hasNone opts =>
    cases v with
    | un sel v =>
      obtain ⟨hsel, c, rfl, h⟩ := h
      have hsel' := sel_lt_of_wf hwf hsel
      unfold toObjTree toObj
      simp only [getLeft, getRight, readLen_lenNode H sel hsel']
      rw [if_neg (Nat.not_le.2 hsel)]
      by_cases hc : (hasNone && sel == 0) = true
      · simp only [hc, if_true] at h ⊢
        obtain ⟨rfl, rfl⟩ := h
        exact if_pos (beq_self_eq_true zeroChunk)
      · simp only [hc, Bool.false_eq_true, if_false] at h ⊢
        rw [toObjTreeOpt_repr H opts _ v c (Ty.wf_union hwf).2 hlim h]
        rfl
    | _ => exact h.elim

theorem toObjTreeFields_repr (H : Hash) (fs : List Ty) (vs : List Val) (ns : List Node) (i : Nat)
    (hwf : Ty.wfList fs = true) (hlim : ReprBasics.limitsOkList fs = true)
    (h : Impl.ReprFields H fs vs ns) :
    Impl.toObjTreeFields H fs i ns = some (Obj.toObjFields fs i vs) := by
  match fs, vs, ns, h with
  | [], [], [], _ => rfl
  | t :: ts, v :: vs, m :: ms, h =>
    have hwf := Ty.wfList_cons hwf
    rw [limitsOkList, Bool.and_eq_true] at hlim
    unfold toObjTreeFields toObjFields
    rw [toObjTree_repr H t v m hwf.1 hlim.1 h.1,
      toObjTreeFields_repr H ts vs ms (i + 1) hwf.2 hlim.2 h.2]

theorem toObjTreeOpt_repr (H : Hash) (opts : List Ty) (k : Nat) (v : Val) (c : Node)
    (hwf : Ty.wfList opts = true) (hlim : ReprBasics.limitsOkList opts = true)
    (h : Impl.ReprOpt H opts k v c) :
    Impl.toObjTreeOpt H opts k c = some (Obj.toObjOpt opts k v) := by
  match opts, k, h with
  | t :: ts, 0, h =>
    rw [limitsOkList, Bool.and_eq_true] at hlim
    exact toObjTree_repr H t v c (Ty.wfList_cons hwf).1 hlim.1 h
  | t :: ts, k + 1, h =>
    rw [limitsOkList, Bool.and_eq_true] at hlim
    exact toObjTreeOpt_repr H ts k v c (Ty.wfList_cons hwf).2 hlim.2 h
end

/-! Non-vacuity: a `Vector[uint8, 2]` tree holding (1, 2), and a container of two uint8 fields (1, 2) -/
example : (Impl.toObjTree (fun a _ => a) (.vector (.uint 1) 2) (.leaf (chunkOfLE 1 1 |>.set 1 2))).isSome = true := by
  decide
example : (Impl.toObjTree (fun a _ => a) (.container [.uint 1, .uint 1])
    (.pair (.leaf (chunkOfLE 1 1)) (.leaf (chunkOfLE 1 2)))).isSome = true := by
  decide

/-- the hypotheses are satisfiable: an instance of the main theorem, for every pair hash -/
example (H : Hash) : Impl.toObjTree H (.uint 1) (.leaf (chunkOfLE 1 5)) = some (.num 5) :=
  toObjTree_repr H (.uint 1) (.num 5) _ rfl rfl (by unfold Impl.Repr; simp)
example (H : Hash) : ∃ n, Impl.construct H (.vector (.uint 1) 2) (.seq [.num 1, .num 2]) = some n ∧
    Impl.toObjTree H (.vector (.uint 1) 2) n = some (.tup [.num 1, .num 2]) :=
  let ⟨n, hn, hr⟩ := ConstructRoot.repr_exists H (.vector (.uint 1) 2) (.seq [.num 1, .num 2]) rfl (by decide)
  ⟨n, hn, toObjTree_repr H _ _ n rfl rfl hr⟩

end Rmk.ObjTreeLaws
