/-
`value_byte_length()` (property C11, last clause): the byte length the library reports for a view —
computed by its own recursion over the tree, `Impl.valueByteLength`, NOT by serialising — equals the
length of the SSZ encoding of the represented value, for EVERY tree that represents the value.
Corollaries: it lies within `[minLen, maxLen]`, equals `fixedLen` for fixed-size types, and agrees
with the count returned by `serialize(stream)`.
-/
import Rmk.Impl.ByteLength
import Rmk.Proofs.BytesLemmas
import Rmk.Proofs.ChunkTree
import Rmk.Proofs.ConstructRoot
import Rmk.Proofs.ListRel
import Rmk.Proofs.ReprBasics
import Rmk.Proofs.SerTree
import Rmk.Proofs.Sizes
import Rmk.Proofs.TypeLemmas
namespace Rmk.ByteLengthLaws
open Rmk Rmk.Impl Rmk.Spec
open Rmk.ChunkTreeLemmas Rmk.ReprBasics Rmk.SerTree

/-! One lemma per type former, as for `SerTree.ser_all`. -/

def VblOk (H : Hash) (t : Ty) : Prop :=
  ∀ v n, t.wf = true → limitsOk t = true → Impl.Repr H t v n →
    valueByteLength H t n = some (Spec.serialize t v).length

theorem vbl_uint (H : Hash) (nb : Nat) : VblOk H (.uint nb) := by
  intro v n _ _ h
  obtain ⟨x, rfl, -⟩ := WT_uint_inv (repr_wt H _ _ _ h)
  unfold valueByteLength Spec.serialize; simp only [toLE_length]

theorem vbl_bool (H : Hash) : VblOk H .bool := by
  intro v n hwf hlim h
  have hr : readBasicAt H .bool n 0 = some v := repr_read H _ _ _ hwf hlim h
  obtain ⟨x, rfl, -⟩ := WT_bool_inv (repr_wt H _ _ _ h)
  unfold valueByteLength Spec.serialize; simp only [hr, Option.map_some, List.length_singleton]

theorem vbl_bitvector (H : Hash) (len : Nat) : VblOk H (.bitvector len) := by
  intro v n _ _ h
  obtain ⟨bs, rfl, rfl⟩ := WT_bitvector_inv (repr_wt H _ _ _ h)
  unfold valueByteLength Spec.serialize; simp only [bitsToBytes_length]

theorem vbl_bitlist (H : Hash) (lim : Nat) : VblOk H (.bitlist lim) := by
  intro v n _ hlim h
  obtain ⟨bs, rfl, hlen⟩ := WT_bitlist_inv (repr_wt H _ _ _ h)
  obtain ⟨-, c, rfl, -⟩ := h
  have hlt : bs.length < 2 ^ 256 := Nat.lt_of_le_of_lt hlen (of_decide_eq_true hlim)
  unfold valueByteLength Spec.serialize; simp only [listLength_mixin H c _ hlt, Option.map_some,
    bitsToBytes_length, List.length_append, List.length_singleton, Nat.add_assoc]

theorem vbl_bytevector (H : Hash) (len : Nat) : VblOk H (.bytevector len) := by
  intro v n hwf hlim h
  have hr := repr_read H _ _ _ hwf hlim h
  obtain ⟨bs, rfl, hlen⟩ := WT_bytevector_inv (repr_wt H _ _ _ h)
  unfold valueByteLength Spec.serialize; simp only [hr, Option.map_some, hlen]

theorem vbl_bytelist (H : Hash) (lim : Nat) : VblOk H (.bytelist lim) := by
  intro v n hwf hlim h
  have hr := repr_read H _ _ _ hwf hlim h
  obtain ⟨bs, rfl, -⟩ := WT_bytelist_inv (repr_wt H _ _ _ h)
  unfold valueByteLength Spec.serialize; simp only [hr]

/-- `List/Vector.value_byte_length`: the product for fixed-size elements, else the sum loop over
    the element nodes, read through `n` as in `SerTree.serSeqWith_repr` -/
theorem vblSeqWith_repr (H : Hash) (et : Ty) (vs : List Val) (n c : Node) (d d' : Nat)
    (hwf : et.wf = true)
    (ih : ∀ w m, Impl.Repr H et w m → valueByteLength H et m = some (serialize et w).length)
    (hn : ∀ i, i < 2 ^ d → getAt n i d' = getAt c i d)
    (h : SeqRepr H et d vs c) :
    (if Spec.isFixed et then some (Spec.fixedLen et * vs.length)
      else vblSeqWith (valueByteLength H et) n d' vs.length) = some (seqSer et vs).length := by
  by_cases hf : Spec.isFixed et = true
  · rw [if_pos hf]
    exact congrArg some (seqSer_fixed_length et vs hwf hf
      (seqRepr_wt h fun w _ m => repr_wt H et w m)).symm
  rw [SeqRepr, if_neg fun hb => hf (isFixed_basic et hb)] at h
  obtain ⟨ns, hall, hct⟩ := h
  rw [if_neg hf, vblSeqWith, allSome_range_eq vs.length (vs.map fun v => (serialize et v).length) _
    (List.length_map _) (fun i hi => by
      obtain ⟨m, hm, hr⟩ := elems_getAt hn hall hct i (List.length_map (as := vs) _ ▸ hi)
      rw [hm, List.getElem_map]
      exact ih _ _ hr),
    Option.map_some, seqSer, interleave_length, Bool.eq_false_iff.2 hf, List.map_map, List.map_map]
  rfl

theorem vbl_vector (H : Hash) (et : Ty) (len : Nat) (ih : VblOk H et) :
    VblOk H (.vector et len) := by
  intro v n hwf hlim h
  obtain ⟨vs, rfl, -⟩ := WT_vector_inv (repr_wt H _ _ _ h)
  obtain ⟨rfl, h⟩ := h
  have hwf := (Ty.wf_vector hwf).2
  rw [valueByteLength]
  exact vblSeqWith_repr H et vs n n _ _ hwf (fun w m => ih w m hwf hlim) (fun _ _ => rfl) h

theorem vbl_list (H : Hash) (et : Ty) (lim : Nat) (ih : VblOk H et) :
    VblOk H (.list et lim) := by
  intro v n hwf hlim h
  obtain ⟨vs, rfl, hlen, -⟩ := WT_list_inv (repr_wt H _ _ _ h)
  obtain ⟨-, c, rfl, h⟩ := h
  have hlim := Bool.and_eq_true_iff.1 hlim
  have hlt : vs.length < 2 ^ 256 := Nat.lt_of_le_of_lt hlen (of_decide_eq_true hlim.1)
  unfold valueByteLength; simp only [listLength_mixin H c _ hlt]
  exact vblSeqWith_repr H et vs _ c _ _ hwf (fun w m => ih w m hwf hlim.2)
    (fun i hi => getAt_mixin c _ hi) h

theorem vblFields_spec (H : Hash) (fs : List Ty) (ih : ∀ t ∈ fs, VblOk H t) (vs : List Val)
    (ns : List Node) (hwf : Ty.wfList fs = true) (hlim : limitsOkList fs = true)
    (h : ReprFields H fs vs ns) (n : Node) (depth k : Nat)
    (hget : ∀ i, i < ns.length → getAt n (k + i) depth = ns[i]?) :
    vblFields H fs n depth k
      = some ((Spec.serializeFields fs vs).map fun p => Spec.partLen p.1 p.2.length).sum := by
  induction fs generalizing vs ns k with
  | nil =>
    obtain ⟨rfl, rfl⟩ := ReprFields_nil_inv h
    rfl
  | cons t ts ihs =>
    obtain ⟨v, vs, m, ms, rfl, rfl, hv, hvs⟩ := ReprFields_cons_inv h
    have hwf := Ty.wfList_cons hwf
    have hlim := Bool.and_eq_true_iff.1 hlim
    obtain ⟨h0, hget'⟩ := getAt_cons_shift hget
    have ih1 := ih t List.mem_cons_self v m hwf.1 hlim.1 hv
    have ih2 := ihs (fun t' ht' => ih t' (List.mem_cons_of_mem _ ht')) vs ms hwf.2 hlim.2 hvs
      (k + 1) hget'
    simp only [vblFields, h0, Option.bind_some, ih1, ih2, Spec.serializeFields, List.map_cons,
      List.sum_cons, Option.map_some]
    by_cases hf : Spec.isFixed t = true
    · simp only [hf, if_true, Spec.partLen, serialize_fixed t v hwf.1 (repr_wt H t v m hv) hf]
    · simp only [hf, Bool.false_eq_true, if_false, Spec.partLen]

theorem vblOpt_spec (H : Hash) (opts : List Ty) (ih : ∀ t ∈ opts, VblOk H t) (k : Nat) (v : Val)
    (c : Node) (hwf : Ty.wfList opts = true) (hlim : limitsOkList opts = true)
    (h : ReprOpt H opts k v c) :
    vblOpt H opts k c = some (Spec.serializeOpt opts k v).length := by
  induction opts generalizing k with
  | nil => exact h.elim
  | cons t ts ihs =>
    have hwf := Ty.wfList_cons hwf
    have hlim := Bool.and_eq_true_iff.1 hlim
    cases k with
    | zero => exact ih t List.mem_cons_self v c hwf.1 hlim.1 h
    | succ k => exact ihs (fun t' ht' => ih t' (List.mem_cons_of_mem _ ht')) k hwf.2 hlim.2 h

theorem vbl_container (H : Hash) (fs : List Ty) (ih : ∀ t ∈ fs, VblOk H t) :
    VblOk H (.container fs) := by
  intro v n hwf hlim h
  have hwt := repr_wt H _ _ _ h
  obtain ⟨vs, rfl, -⟩ := WT_container_inv hwt
  obtain ⟨ns, hfs, hct⟩ := h
  rw [valueByteLength]
  by_cases hf : Spec.allFixed fs = true
  · rw [if_pos hf]
    exact congrArg some (serialize_fixed (.container fs) (.seq vs) hwf hwt hf).symm
  · rw [if_neg hf]
    simp only [Spec.serialize, interleave_length]
    exact vblFields_spec H fs ih vs ns (Ty.wf_container hwf).2 hlim hfs n _ 0 (fun i hi => by
      rw [Nat.zero_add, ct_get hct hi, List.getElem?_eq_getElem hi])

theorem vbl_union (H : Hash) (hasNone : Bool) (opts : List Ty) (ih : ∀ t ∈ opts, VblOk H t) :
    VblOk H (.union hasNone opts) := by
  intro v n hwf hlim h
  obtain ⟨sel, w, c, s, rfl, rfl, hs, hsel, h⟩ := repr_union_inv hwf h
  unfold valueByteLength; simp only [getLeft, getRight, hs, if_neg hsel]
  obtain ⟨hc, rfl, hz⟩ | ⟨hc, h⟩ := h
  · unfold Spec.serialize; simp only [if_pos hc, hz, if_true, List.length_singleton]
  · rw [if_neg hc, vblOpt_spec H opts ih _ w c (Ty.wf_union hwf).2 hlim h]
    unfold Spec.serialize; simp only [Option.map_some, hc, Bool.false_eq_true, if_false,
      List.length_cons, Nat.add_comm]

theorem vbl_all (H : Hash) : ∀ t, VblOk H t :=
  ty_induction (vbl_uint H) (vbl_bool H) (vbl_bitvector H) (vbl_bitlist H) (vbl_bytevector H)
    (vbl_bytelist H) (vbl_vector H) (vbl_list H) (vbl_container H) (vbl_union H)

variable (H : Hash)

/-- C11 (last clause): `value_byte_length()` computed from ANY tree that represents `v` is the length
    of the SSZ encoding of `v`.  `hlim`: every list / bitlist / bytelist limit in `t` is `< 2^256`
    (the length is read back from a 32-byte leaf). -/
theorem repr_vbl (t : Ty) (v : Val) (n : Node) (hwf : t.wf = true) (hlim : limitsOk t = true)
    (h : Impl.Repr H t v n) :
    Impl.valueByteLength H t n = some (Spec.serialize t v).length :=
  vbl_all H t v n hwf hlim h

/-- container fields: the loop of `Container.value_byte_length` -/
theorem reprFields_vbl (fs : List Ty) (vs : List Val) (ns : List Node)
    (hwf : Ty.wfList fs = true) (hlim : limitsOkList fs = true) (h : ReprFields H fs vs ns)
    (n : Node) (depth k : Nat) (hget : ∀ i, i < ns.length → getAt n (k + i) depth = ns[i]?) :
    Impl.vblFields H fs n depth k
      = some (Spec.interleave (Spec.serializeFields fs vs)).length := by
  rw [interleave_length]
  exact vblFields_spec H fs (fun t _ => vbl_all H t) vs ns hwf hlim h n depth k hget

theorem reprOpt_vbl (opts : List Ty) (k : Nat) (v : Val) (c : Node)
    (hwf : Ty.wfList opts = true) (hlim : limitsOkList opts = true) (h : ReprOpt H opts k v c) :
    Impl.vblOpt H opts k c = some (Spec.serializeOpt opts k v).length :=
  vblOpt_spec H opts (fun t _ => vbl_all H t) k v c hwf hlim h

/-- the reported length is within the type's `[min_byte_length, max_byte_length]` -/
theorem repr_vbl_bounds (t : Ty) (v : Val) (n : Node) (hwf : t.wf = true)
    (hlim : limitsOk t = true) (h : Impl.Repr H t v n) :
    ∃ k, Impl.valueByteLength H t n = some k ∧ Spec.minLen t ≤ k ∧ k ≤ Spec.maxLen t :=
  ⟨_, repr_vbl H t v n hwf hlim h, serialize_bounds t v hwf (repr_wt H t v n h)⟩

/-- for fixed-size types the reported length is `type_byte_length()` -/
theorem repr_vbl_fixed (t : Ty) (v : Val) (n : Node) (hwf : t.wf = true)
    (hlim : limitsOk t = true) (hf : Spec.isFixed t = true) (h : Impl.Repr H t v n) :
    Impl.valueByteLength H t n = some (Spec.fixedLen t) := by
  rw [repr_vbl H t v n hwf hlim h, serialize_fixed t v hwf (repr_wt H t v n h) hf]

/-- `value_byte_length()` agrees with the count returned by `serialize(stream)` and with the number
    of bytes actually written -/
theorem repr_vbl_eq_ser_count (t : Ty) (v : Val) (n : Node) (hwf : t.wf = true)
    (hlim : limitsOk t = true) (h : Impl.Repr H t v n) :
    Impl.valueByteLength H t n = (Impl.serTree H t n).map (·.2) ∧
    Impl.valueByteLength H t n = (Impl.serTree H t n).map (·.1.length) := by
  rw [repr_vbl H t v n hwf hlim h, repr_ser H t v n hwf hlim h]
  exact ⟨rfl, rfl⟩

theorem construct_vbl (t : Ty) (v : Val) (hwf : t.wf = true) (hlim : limitsOk t = true)
    (hwt : WT t v = true) :
    ∃ n, Impl.construct H t v = some n ∧
      Impl.valueByteLength H t n = some (Spec.serialize t v).length := by
  obtain ⟨n, hn, hr⟩ := ConstructRoot.repr_exists H t v hwf hwt
  exact ⟨n, hn, repr_vbl H t v n hwf hlim hr⟩

theorem repr_vbl_unique (t : Ty) (v : Val) (n n' : Node) (hwf : t.wf = true)
    (hlim : limitsOk t = true) (h : Impl.Repr H t v n) (h' : Impl.Repr H t v n') :
    Impl.valueByteLength H t n = Impl.valueByteLength H t n' := by
  rw [repr_vbl H t v n hwf hlim h, repr_vbl H t v n' hwf hlim h']

end Rmk.ByteLengthLaws
