/-
Partial trees at the view level (property C17).

`Summ H a b` (TreeLaws): `a` is `b` with some subtrees replaced by bare summaries of their roots.
This file lifts the tree-level facts (`Summ.getPath`, `Summ.setPath`, `Summ.root_eq`) to the view
functions of `Impl/View.lean` and `Impl/Codec.lean`:

* reads (`readVal`, `serTree`) of a partial tree either fail or return exactly what the complete
  tree returns (`summ_readVal`, `summ_serTree`);
* writes (`apply`) on a partial tree either fail or give the partial version of the result of the same
  write on the complete tree (`summ_apply_partial` for everything but `append`, `summ_apply` for all
  operations under the explicit no-collision-with-a-zero-hash hypothesis `ZeroInj H`).
-/
import Rmk.Impl.Codec
import Rmk.Proofs.TreeLaws
import Rmk.Proofs.DiffHistory
import Rmk.Proofs.ReprBasics
namespace Rmk.PartialViews
open Rmk Rmk.Impl Rmk.Spec

def ORel {α β} (R : α → β → Prop) (x : Option α) (y : Option β) : Prop :=
  ∀ u, x = some u → ∃ v, y = some v ∧ R u v

def OLe {α} (x y : Option α) : Prop := ∀ u, x = some u → y = some u

theorem ole_refl {α} (x : Option α) : OLe x x := fun _ h => h

theorem ole_none {α} (y : Option α) : OLe none y := fun _ h => by cases h

theorem orel_none {α β} (R : α → β → Prop) (y : Option β) : ORel R none y := fun _ h => by cases h

theorem orel_some {α β} (R : α → β → Prop) (u : α) (v : β) (h : R u v) : ORel R (some u) (some v) :=
  fun _ hw => by cases hw; exact ⟨v, rfl, h⟩

/-- Case analysis on a related pair of results: `x` and `y` are replaced together wherever they occur
    in the goal, in particular as the scrutinees of the `match`es of the model (follow with
    `dsimp only` to reduce these). -/
@[elab_as_elim]
theorem ORel.elim {α β} {R : α → β → Prop} {P : Option α → Option β → Prop} {x : Option α}
    {y : Option β} (h : ORel R x y) (hn : ∀ y, P none y) (hs : ∀ u v, R u v → P (some u) (some v)) :
    P x y := by
  cases x with
  | none => exact hn y
  | some u =>
    obtain ⟨v, rfl, hr⟩ := h u rfl
    exact hs u v hr

theorem ole_iff_orel {α} {x y : Option α} : OLe x y ↔ ORel Eq x y :=
  ⟨fun h u hu => ⟨u, h u hu, rfl⟩, fun h u hu => by obtain ⟨_, hv, rfl⟩ := h u hu; exact hv⟩

@[elab_as_elim]
theorem OLe.elim {α} {P : Option α → Option α → Prop} {x y : Option α} (h : OLe x y)
    (hn : ∀ y, P none y) (hs : ∀ u, P (some u) (some u)) : P x y :=
  (ole_iff_orel.1 h).elim hn (fun u _ e => e ▸ hs u)

theorem orel_iff {α β} (R : α → β → Prop) (x : Option α) (y : Option β) :
    ORel R x y ↔ (x = none ∨ ∃ u v, x = some u ∧ y = some v ∧ R u v) := by
  constructor
  · exact fun h => h.elim (fun _ => .inl rfl) (fun u v hr => .inr ⟨u, v, rfl, rfl, hr⟩)
  · rintro (rfl | ⟨u, v, rfl, rfl, hr⟩)
    · exact orel_none _ _
    · exact orel_some _ _ _ hr

theorem ole_iff {α} (x y : Option α) : OLe x y ↔ (x = none ∨ x = y) := by
  constructor
  · exact fun h => h.elim (fun _ => .inl rfl) (fun _ => .inr rfl)
  · rintro (rfl | rfl)
    · exact ole_none _
    · exact ole_refl _

theorem orel_bind {α β γ δ} {R : α → β → Prop} {S : γ → δ → Prop} {x : Option α} {y : Option β}
    {f : α → Option γ} {g : β → Option δ} (h : ORel R x y)
    (hf : ∀ u v, R u v → ORel S (f u) (g v)) : ORel S (x.bind f) (y.bind g) :=
  h.elim (fun _ => orel_none _ _) hf

theorem orel_map {α β γ δ} {R : α → β → Prop} {S : γ → δ → Prop} {x : Option α} {y : Option β}
    {f : α → γ} {g : β → δ} (h : ORel R x y) (hf : ∀ u v, R u v → S (f u) (g v)) :
    ORel S (x.map f) (y.map g) :=
  h.elim (fun _ => orel_none _ _) (fun u v hr => orel_some _ _ _ (hf u v hr))

theorem orel_ite {α β} {R : α → β → Prop} {c : Prop} [Decidable c] {x x' : Option α}
    {y y' : Option β} (h : ORel R x y) (h' : ORel R x' y') :
    ORel R (if c then x else x') (if c then y else y') := by
  by_cases hc : c
  · rw [if_pos hc, if_pos hc]; exact h
  · rw [if_neg hc, if_neg hc]; exact h'

theorem orel_iteN {α β} {R : α → β → Prop} {c : Prop} [Decidable c] {x : Option α} {y : Option β}
    (h : ORel R x y) : ORel R (if c then none else x) (if c then none else y) :=
  orel_ite (orel_none _ _) h

theorem orel_bind_ole {α β γ} {R : α → β → Prop} {x : Option α} {y : Option β}
    {f : α → Option γ} {g : β → Option γ} (h : ORel R x y)
    (hf : ∀ u v, R u v → OLe (f u) (g v)) : OLe (x.bind f) (y.bind g) :=
  h.elim (fun _ => ole_none _) hf

theorem orel_map_ole {α β γ} {R : α → β → Prop} {x : Option α} {y : Option β}
    {f : α → γ} {g : β → γ} (h : ORel R x y)
    (hf : ∀ u v, R u v → f u = g v) : OLe (x.map f) (y.map g) :=
  ole_iff_orel.2 (orel_map h hf)

theorem ole_map {α β} {x y : Option α} (f : α → β) (h : OLe x y) : OLe (x.map f) (y.map f) :=
  h.elim (fun _ => ole_none _) (fun _ => ole_refl _)

theorem ole_bind {α β} {x y : Option α} {f g : α → Option β} (h : OLe x y)
    (hf : ∀ u, OLe (f u) (g u)) : OLe (x.bind f) (y.bind g) :=
  h.elim (fun _ => ole_none _) hf

theorem ole_ite {α} {c : Prop} [Decidable c] {x x' y y' : Option α} (h : OLe x y) (h' : OLe x' y') :
    OLe (if c then x else x') (if c then y else y') :=
  ole_iff_orel.2 (orel_ite (ole_iff_orel.1 h) (ole_iff_orel.1 h'))

/-- `allSome` of pointwise related lists: the results are related by any `S` that holds of the empty
    lists and is kept by consing related heads (equality, `AllRel R`, equal images, …) -/
theorem orel_allSome {α β γ} {R : β → γ → Prop} {S : List β → List γ → Prop} (hnil : S [] [])
    (hcons : ∀ u v us vs, R u v → S us vs → S (u :: us) (v :: vs)) (l : List α) (f : α → Option β)
    (g : α → Option γ) (h : ∀ i ∈ l, ORel R (f i) (g i)) :
    ORel S (allSome (l.map f)) (allSome (l.map g)) := by
  induction l with
  | nil => exact orel_some _ _ _ hnil
  | cons i is ih =>
    rw [List.map_cons, List.map_cons]
    refine (h i List.mem_cons_self).elim (fun _ => orel_none _ _) (fun u v hr => ?_)
    exact orel_map (ih fun j hj => h j (List.mem_cons_of_mem _ hj)) (fun us vs hs => hcons u v us vs hr hs)

theorem ole_allSome {α β} (l : List α) (f g : α → Option β) (h : ∀ i ∈ l, OLe (f i) (g i)) :
    OLe (allSome (l.map f)) (allSome (l.map g)) :=
  ole_iff_orel.2 (orel_allSome rfl (fun _ _ _ _ hr hs => hr ▸ hs ▸ rfl) l f g
    (fun i hi => ole_iff_orel.1 (h i hi)))

theorem summ_leaf_root {H : Hash} {c : Chunk} {x : Node} (h : Summ H (.leaf c) x) : x.root H = c :=
  h.root_eq.symm

theorem summ_pair_inv {H : Hash} {l r b : Node} (h : Summ H (.pair l r) b) :
    ∃ l' r', b = .pair l' r' ∧ Summ H l l' ∧ Summ H r r' := by
  cases h with
  | refl _ => exact ⟨l, r, rfl, .refl _, .refl _⟩
  | pair _ _ l' r' hl hr => exact ⟨l', r', rfl, hl, hr⟩

/-- a partial tree is a summary leaf at its root, or both trees are pairs with related children -/
@[elab_as_elim]
theorem _root_.Rmk.Summ.pair_cases {H : Hash} {P : Node → Node → Prop} {a b : Node} (h : Summ H a b)
    (leaf : ∀ c b, P (.leaf c) b)
    (pair : ∀ l r l' r', Summ H l l' → Summ H r r' → P (.pair l r) (.pair l' r')) : P a b := by
  cases a with
  | leaf c => exact leaf c b
  | pair l r =>
    obtain ⟨l', r', rfl, hl, hr⟩ := summ_pair_inv h
    exact pair l r l' r' hl hr

theorem orel_summ_root {H : Hash} {x y : Option Node} (h : ORel (Summ H) x y) (a' : Node)
    (ha : x = some a') : ∃ b', y = some b' ∧ a'.root H = b'.root H :=
  let ⟨b', hb, hs⟩ := h a' ha
  ⟨b', hb, hs.root_eq⟩

theorem summ_getAt {H : Hash} {a b : Node} (h : Summ H a b) (i depth : Nat) :
    ORel (Summ H) (getAt a i depth) (getAt b i depth) :=
  orel_iteN (h.getPath _)

theorem summ_getLeft {H : Hash} {a b : Node} (h : Summ H a b) :
    ORel (Summ H) (getLeft a) (getLeft b) :=
  h.pair_cases (fun _ _ => orel_none _ _) (fun _ _ _ _ hl _ => orel_some _ _ _ hl)

theorem summ_getRight {H : Hash} {a b : Node} (h : Summ H a b) :
    ORel (Summ H) (getRight a) (getRight b) :=
  h.pair_cases (fun _ _ => orel_none _ _) (fun _ _ _ _ _ hr => orel_some _ _ _ hr)

theorem summ_rebindRight {H : Hash} {a b : Node} (h : Summ H a b) (v : Node) :
    ORel (Summ H) (rebindRight a v) (rebindRight b v) :=
  h.pair_cases (fun _ _ => orel_none _ _)
    (fun _ _ _ _ hl _ => orel_some _ _ _ (.pair _ _ _ _ hl (.refl v)))

theorem summ_rebindLeft_rel {H : Hash} {a b v w : Node} (h : Summ H a b) (hv : Summ H v w) :
    ORel (Summ H) (rebindLeft a v) (rebindLeft b w) :=
  h.pair_cases (fun _ _ => orel_none _ _)
    (fun _ _ _ _ _ hr => orel_some _ _ _ (.pair _ _ _ _ hv hr))

theorem summ_rebindLeft {H : Hash} {a b : Node} (h : Summ H a b) (v : Node) :
    ORel (Summ H) (rebindLeft a v) (rebindLeft b v) :=
  summ_rebindLeft_rel h (.refl v)

theorem summ_readLen {H : Hash} {a b : Node} (h : Summ H a b) : readLen H a = readLen H b := by
  simp only [Impl.readLen, h.root_eq]

theorem summ_listLength {H : Hash} {a b : Node} (h : Summ H a b) :
    OLe (listLength H a) (listLength H b) :=
  orel_map_ole (summ_getRight h) (fun _ _ hs => summ_readLen hs)

theorem summ_listLength_eq {H : Hash} {a b : Node} (h : Summ H a b) (k : Nat)
    (hk : listLength H a = some k) : listLength H b = some k := summ_listLength h k hk

theorem summ_readBasicAt {H : Hash} {a b : Node} (h : Summ H a b) (t : Ty) (j : Nat) :
    readBasicAt H t a j = readBasicAt H t b j := by
  simp only [Impl.readBasicAt, h.root_eq]

theorem summ_spliceBasic {H : Hash} {a b : Node} (h : Summ H a b) (size j v : Nat) :
    spliceBasic H size a j v = spliceBasic H size b j v := by
  simp only [Impl.spliceBasic, h.root_eq]

theorem summ_chunkWithBit {H : Hash} {a b : Node} (h : Summ H a b) (i : Nat) (v : Bool) :
    chunkWithBit H a i v = chunkWithBit H b i v := by
  simp only [Impl.chunkWithBit, h.root_eq]

theorem summ_readChunks {H : Hash} {a b : Node} (h : Summ H a b) (depth count : Nat) :
    OLe (readChunks H a depth count) (readChunks H b depth count) :=
  orel_map_ole
    (orel_allSome (S := fun cs cs' => cs.flatMap (·.root H) = cs'.flatMap (·.root H)) rfl
      (fun _ _ _ _ hr hs => by rw [List.flatMap_cons, List.flatMap_cons, hr.root_eq, hs]) _ _ _
      (fun i _ => summ_getAt h i depth))
    (fun _ _ hs => hs)

theorem ole_packed {H : Hash} {a b : Node} (h : Summ H a b) (et : Ty) (depth per : Nat) (i : Nat) :
    OLe ((getAt a (i / per) depth).bind fun c => readBasicAt H et c (i % per))
      ((getAt b (i / per) depth).bind fun c => readBasicAt H et c (i % per)) :=
  orel_bind_ole (summ_getAt h _ depth) (fun u v hs => by
    rw [summ_readBasicAt hs]; exact ole_refl _)

theorem ole_bits {H : Hash} {a b : Node} (h : Summ H a b) (depth : Nat) (i : Nat) :
    OLe ((getAt a (i / 256) depth).map fun c => bitOfChunk (c.root H) i)
      ((getAt b (i / 256) depth).map fun c => bitOfChunk (c.root H) i) :=
  orel_map_ole (summ_getAt h _ depth) (fun u v hs => by rw [hs.root_eq])

mutual
theorem ole_readVal (H : Hash) (t : Ty) (a b : Node) (h : Summ H a b) :
    OLe (readVal H t a) (readVal H t b) := by
  -- `readVal` is built from `map`, `bind`, `ite` and `allSome`, all monotone for `OLe`; the partial tree enters
  -- through `summ_getAt`, `summ_listLength`, `summ_readLen`, `summ_readChunks`
  cases t with
  | uint nb => unfold readVal; rw [summ_readBasicAt h]; exact ole_refl _
  | bool => unfold readVal; rw [summ_readBasicAt h]; exact ole_refl _
  | bitvector len =>
    unfold readVal
    exact ole_map _ (ole_allSome _ _ _ (fun i _ => ole_bits h _ i))
  | bitlist lim =>
    unfold readVal
    refine (summ_listLength h).elim (fun _ => ole_none _) (fun len => ?_)
    exact ole_map _ (ole_allSome _ _ _ (fun i _ => ole_bits h _ i))
  | bytevector len =>
    rw [readVal, readVal, h.root_eq]
    exact ole_ite (ole_refl _) (ole_map _ (summ_readChunks h _ _))
  | bytelist lim =>
    refine h.pair_cases (fun _ _ => ole_none _) (fun l r l' r' hl hr => ?_)
    unfold readVal
    dsimp only [getLeft, getRight]
    rw [summ_readLen hr, hl.root_eq]
    exact ole_ite (ole_refl _) (ole_ite (ole_refl _) (ole_map _ (summ_readChunks hl _ _)))
  | vector et len =>
    unfold readVal
    exact ole_ite (ole_map _ (ole_allSome _ _ _ (fun i _ => ole_packed h et _ _ i)))
      (ole_map _ (ole_allSome _ _ _ (fun i _ =>
        orel_bind_ole (summ_getAt h i _) (ole_readVal H et))))
  | list et lim =>
    unfold readVal
    refine (summ_listLength h).elim (fun _ => ole_none _) (fun len => ?_)
    exact ole_ite (ole_map _ (ole_allSome _ _ _ (fun i _ => ole_packed h et _ _ i)))
      (ole_map _ (ole_allSome _ _ _ (fun i _ =>
        orel_bind_ole (summ_getAt h i _) (ole_readVal H et))))
  | container fs =>
    unfold readVal
    exact ole_map _ (ole_readFields H fs a b h _ 0)
  | union hasNone opts =>
    refine h.pair_cases (fun _ _ => ole_none _) (fun l r l' r' hl hr => ?_)
    unfold readVal
    dsimp only [getLeft, getRight]
    rw [summ_readLen hr, hl.root_eq]
    exact ole_ite (ole_refl _) (ole_ite (ole_refl _) (ole_map _ (ole_readOpt H opts _ l l' hl)))
theorem ole_readFields (H : Hash) (ts : List Ty) (a b : Node) (h : Summ H a b) (depth i : Nat) :
    OLe (readFields H ts a depth i) (readFields H ts b depth i) := by
  cases ts with
  | nil => exact ole_refl _
  | cons t ts =>
    unfold readFields
    refine (orel_bind_ole (summ_getAt h i depth) (ole_readVal H t)).elim
      (fun _ => ole_none _) (fun v => ?_)
    exact (ole_readFields H ts a b h depth (i + 1)).elim (fun _ => ole_none _) (fun vs => ole_refl _)
theorem ole_readOpt (H : Hash) (ts : List Ty) (k : Nat) (a b : Node) (h : Summ H a b) :
    OLe (readOpt H ts k a) (readOpt H ts k b) := by
  match ts, k with
  | [], _ => exact ole_refl _
  | t :: _, 0 => exact ole_readVal H t a b h
  | _ :: ts, k + 1 => exact ole_readOpt H ts k a b h
end

/-- A complete read of a partial tree either fails (navigation into an excluded
    subtree) or returns exactly what the complete tree returns. -/
theorem summ_readVal (H : Hash) (t : Ty) (a b : Node) (h : Summ H a b) :
    Impl.readVal H t a = none ∨ Impl.readVal H t a = Impl.readVal H t b :=
  (ole_iff _ _).1 (ole_readVal H t a b h)

theorem summ_readFields (H : Hash) (ts : List Ty) (a b : Node) (h : Summ H a b) (depth i : Nat) :
    Impl.readFields H ts a depth i = none ∨
      Impl.readFields H ts a depth i = Impl.readFields H ts b depth i :=
  (ole_iff _ _).1 (ole_readFields H ts a b h depth i)

theorem summ_readOpt (H : Hash) (ts : List Ty) (k : Nat) (a b : Node) (h : Summ H a b) :
    Impl.readOpt H ts k a = none ∨ Impl.readOpt H ts k a = Impl.readOpt H ts k b :=
  (ole_iff _ _).1 (ole_readOpt H ts k a b h)

theorem ole_serBitsRaw {H : Hash} {a b : Node} (h : Summ H a b) (depth bitlen : Nat) :
    OLe (serBitsRaw H a depth bitlen) (serBitsRaw H b depth bitlen) := by
  unfold serBitsRaw
  dsimp only
  -- `with_reducible` for the reason given at `orel_apply_gen`
  with_reducible refine (summ_readChunks h _ _).elim (fun _ => ole_none _) (fun pre => ?_)
  exact ole_ite (orel_map_ole (summ_getAt h _ depth) (fun u v hs => by rw [hs.root_eq])) (ole_refl _)

theorem ole_serSeqWith {H : Hash} {a b : Node} (h : Summ H a b)
    (ser : Node → Option (List UInt8 × Nat))
    (hser : ∀ x y, Summ H x y → OLe (ser x) (ser y)) (et : Ty) (depth len : Nat) :
    OLe (serSeqWith H ser et a depth len) (serSeqWith H ser et b depth len) := by
  unfold serSeqWith
  refine ole_ite (ole_map _ (ole_allSome _ _ _ (fun i _ => ?_))) ?_
  · exact orel_bind_ole (summ_getAt h _ depth) (fun u v hs => by
      rw [summ_readBasicAt hs]; exact ole_refl _)
  · exact (ole_allSome (List.range len) _ _
      (fun i _ => orel_bind_ole (summ_getAt h i depth) hser)).elim
        (fun _ => ole_none _) (fun _ => ole_refl _)

mutual
theorem ole_serTree (H : Hash) (t : Ty) (a b : Node) (h : Summ H a b) :
    OLe (serTree H t a) (serTree H t b) := by
  cases t with
  | uint nb => unfold serTree; rw [summ_readBasicAt h]; exact ole_refl _
  | bool => unfold serTree; rw [summ_readBasicAt h]; exact ole_refl _
  | bitvector len =>
    unfold serTree
    exact ole_map _ (ole_serBitsRaw h _ _)
  | bitlist lim =>
    unfold serTree
    refine (summ_listLength h).elim (fun _ => ole_none _) (fun len => ?_)
    exact ole_map _ (ole_serBitsRaw h _ _)
  | bytevector len =>
    unfold serTree
    exact (ole_readVal H _ a b h).elim (fun _ => ole_none _) (fun _ => ole_refl _)
  | bytelist lim =>
    unfold serTree
    exact (ole_readVal H _ a b h).elim (fun _ => ole_none _) (fun _ => ole_refl _)
  | vector et len =>
    unfold serTree
    exact ole_serSeqWith h _ (ole_serTree H et) et _ _
  | list et lim =>
    unfold serTree
    refine (summ_listLength h).elim (fun _ => ole_none _) (fun len => ?_)
    exact ole_serSeqWith h _ (ole_serTree H et) et _ _
  | container fs =>
    unfold serTree
    exact ole_map _ (ole_serFields H fs a b h _ 0)
  | union hasNone opts =>
    refine h.pair_cases (fun _ _ => ole_none _) (fun l r l' r' hl hr => ?_)
    unfold serTree
    dsimp only [getLeft, getRight]
    rw [summ_readLen hr, hl.root_eq]
    exact ole_ite (ole_refl _) (ole_ite (ole_refl _) (ole_map _ (ole_serOpt H opts _ l l' hl)))
theorem ole_serFields (H : Hash) (ts : List Ty) (a b : Node) (h : Summ H a b) (depth i : Nat) :
    OLe (serFields H ts a depth i) (serFields H ts b depth i) := by
  cases ts with
  | nil => exact ole_refl _
  | cons t ts =>
    unfold serFields
    refine (orel_bind_ole (summ_getAt h i depth) (ole_serTree H t)).elim
      (fun _ => ole_none _) (fun ⟨bs, k⟩ => ?_)
    exact (ole_serFields H ts a b h depth (i + 1)).elim (fun _ => ole_none _) (fun _ => ole_refl _)
theorem ole_serOpt (H : Hash) (ts : List Ty) (k : Nat) (a b : Node) (h : Summ H a b) :
    OLe (serOpt H ts k a) (serOpt H ts k b) := by
  match ts, k with
  | [], _ => exact ole_refl _
  | t :: _, 0 => exact ole_serTree H t a b h
  | _ :: ts, k + 1 => exact ole_serOpt H ts k a b h
end

/-- serialising a partial tree either fails or writes exactly the bytes (and returns the count) that
    the complete tree gives. -/
theorem summ_serTree (H : Hash) (t : Ty) (a b : Node) (h : Summ H a b) :
    Impl.serTree H t a = none ∨ Impl.serTree H t a = Impl.serTree H t b :=
  (ole_iff _ _).1 (ole_serTree H t a b h)

theorem summ_serFields (H : Hash) (ts : List Ty) (a b : Node) (h : Summ H a b) (depth i : Nat) :
    Impl.serFields H ts a depth i = none ∨
      Impl.serFields H ts a depth i = Impl.serFields H ts b depth i :=
  (ole_iff _ _).1 (ole_serFields H ts a b h depth i)

theorem summ_serOpt (H : Hash) (ts : List Ty) (k : Nat) (a b : Node) (h : Summ H a b) :
    Impl.serOpt H ts k a = none ∨ Impl.serOpt H ts k a = Impl.serOpt H ts k b :=
  (ole_iff _ _).1 (ole_serOpt H ts k a b h)

/-- no pair of chunks other than two zero hashes of height `d` hashes to the zero hash of height
    `d + 1`.  (A consequence of collision-freeness `Injective2 H`; an explicit hypothesis of the
    theorems about `append` below, which are FALSE without it: see the comment before
    `summ_apply`.) -/
def ZeroInj (H : Hash) : Prop :=
  ∀ d x y, H x y = zeroHash H (d + 1) → x = zeroHash H d ∧ y = zeroHash H d

theorem zeroInj_of_injective2 (H : Hash) (hH : Injective2 H) : ZeroInj H :=
  fun d x y h => hH x y (zeroHash H d) (zeroHash H d) (by simpa [zeroHash] using h)

theorem summ_expandSet {H : Hash} {v w : Node} (hv : Summ H v w) (p : List Bool) :
    Summ H (expandSet H p v) (expandSet H p w) := by
  induction p with
  | nil => exact hv
  | cons b bs ih =>
    cases b
    · exact .pair _ _ _ _ ih (.refl _)
    · exact .pair _ _ _ _ (.refl _) ih

/-- a write with expansion into a subtree whose root is the zero hash of its height: the subtree
    is kept where it is present; the result is summarised by the freshly expanded zero subtree -/
theorem setPath_expand_zero_root (H : Hash) (hZ : ZeroInj H) (p : List Bool) (x : Node) {v w : Node}
    (hv : Summ H v w) (hx : x.root H = zeroHash H p.length) :
    ORel (Summ H) (some (expandSet H p v)) (setPath H true x p w) := by
  induction p generalizing x with
  | nil => rw [setPath_nil]; exact orel_some _ _ _ hv
  | cons b bs ih =>
    cases x with
    | leaf c =>
      rw [setPath_leaf_cons, if_pos (by simpa [Node.root] using hx)]
      exact orel_some _ _ _ (summ_expandSet hv _)
    | pair l r =>
      obtain ⟨hl, hr⟩ := hZ _ _ _ hx
      rw [setPath_pair_cons]
      cases b with
      | false =>
        obtain ⟨l', hl', hs⟩ := ih l hl _ rfl
        rw [if_neg Bool.false_ne_true, hl']
        exact orel_some _ _ _ (Summ.pair _ _ _ _ hs (by rw [zeroNode, ← hr]; exact .leaf r))
      | true =>
        obtain ⟨r', hr', hs⟩ := ih r hr _ rfl
        rw [if_pos rfl, hr']
        exact orel_some _ _ _ (Summ.pair _ _ _ _ (by rw [zeroNode, ← hl]; exact .leaf l) hs)

/-- Writing related nodes at the same position of a partial and of the complete tree.  With
    expansion (`e = true`) a summary leaf that equals a zero hash is replaced by a fresh zero
    subtree; this summarises what the leaf stood for only under `ZeroInj H`. -/
theorem summ_setPath {H : Hash} {e : Bool} (hZ : e = true → ZeroInj H) {a b v w : Node}
    (h : Summ H a b) (hv : Summ H v w) (p : List Bool) :
    ORel (Summ H) (setPath H e a p v) (setPath H e b p w) := by
  induction p generalizing a b with
  | nil => rw [setPath_nil, setPath_nil]; exact orel_some _ _ _ hv
  | cons c cs ih =>
    cases a with
    | leaf x =>
      rw [setPath_leaf_cons]
      split
      · next hc =>
        obtain ⟨rfl, hx⟩ := Bool.and_eq_true_iff.1 hc
        exact setPath_expand_zero_root H (hZ rfl) (c :: cs) b hv (h.root_eq.symm.trans (eq_of_beq hx))
      · exact orel_none _ _
    | pair l r =>
      obtain ⟨l', r', rfl, hl, hr⟩ := summ_pair_inv h
      rw [setPath_pair_cons, setPath_pair_cons]
      exact orel_ite (orel_map (ih hr) fun _ _ hs => .pair _ _ _ _ hl hs)
        (orel_map (ih hl) fun _ _ hs => .pair _ _ _ _ hs hr)

theorem summ_setAt {H : Hash} {e : Bool} (hZ : e = true → ZeroInj H) {a b v w : Node}
    (h : Summ H a b) (hv : Summ H v w) (i depth : Nat) :
    ORel (Summ H) (setAt H e a i depth v) (setAt H e b i depth w) :=
  orel_iteN (summ_setPath hZ h hv _)

theorem summ_setAt_noexpand {H : Hash} {a b : Node} (h : Summ H a b) (i depth : Nat) (v : Node) :
    ORel (Summ H) (setAt H false a i depth v) (setAt H false b i depth v) :=
  summ_setAt (e := false) (nomatch ·) h (.refl v) i depth

theorem summ_summarizePath {H : Hash} {a b : Node} (h : Summ H a b) (p : List Bool) :
    ORel (Summ H) (summarizePath H a p) (summarizePath H b p) := by
  unfold summarizePath
  refine ORel.elim (R := Summ H) (h.getPath p) (fun _ => orel_none _ _) (fun m m' hm => ?_)
  dsimp only
  rw [hm.root_eq]
  exact summ_setPath (e := false) (nomatch ·) h (.refl _) p

theorem summ_popFinish {H : Hash} {a b : Node} (h : Summ H a b) (target : List Bool)
    (cs : Bool) (newLen : Nat) :
    ORel (Summ H) (popFinish H a target cs newLen) (popFinish H b target cs newLen) :=
  orel_bind (orel_ite (summ_summarizePath h _) (orel_some _ _ _ h))
    (fun _ _ hs => summ_rebindRight hs _)

/-- `BitsView.set` step: read the chunk, write it back with one bit changed -/
theorem orel_bitSet {H : Hash} {a b : Node} (h : Summ H a b) (ci depth i : Nat) (bit : Bool) :
    ORel (Summ H)
      ((getAt a ci depth).bind fun chunk => setAt H false a ci depth (chunkWithBit H chunk i bit))
      ((getAt b ci depth).bind fun chunk => setAt H false b ci depth (chunkWithBit H chunk i bit)) :=
  orel_bind (summ_getAt h ci depth) (fun u w hs => by
    rw [summ_chunkWithBit hs]; exact summ_setAt_noexpand h _ _ _)

/-- packed `SubtreeView.set` step: read the chunk, write it back with one element spliced in -/
theorem orel_spliceSet {H : Hash} {a b : Node} (h : Summ H a b) (ci depth size j val : Nat) :
    ORel (Summ H)
      (match getAt a ci depth with
        | none => none
        | some chunk => setAt H false a ci depth (spliceBasic H size chunk j val))
      (match getAt b ci depth with
        | none => none
        | some chunk => setAt H false b ci depth (spliceBasic H size chunk j val)) := by
  refine (summ_getAt h ci depth).elim (fun _ => orel_none _ _) (fun chunk chunk' hs => ?_)
  dsimp only
  rw [summ_spliceBasic hs]
  exact summ_setAt_noexpand h _ _ _

-- `ORel.elim` looks for its scrutinee in the goal and also meets the same function applied to the
-- other tree; refuting that match unfolds the function, which is slow in a goal of this size.
attribute [local irreducible] getDepth getAt setAt listLength in
theorem orel_apply_gen (H : Hash) (t : Ty) (a b : Node) (op : Op) (h : Summ H a b)
    (hexp : (∃ v, op = .append v) → ZeroInj H) :
    ORel (Summ H) (apply H t a op) (apply H t b op) := by
  cases t <;> cases op <;> first | exact orel_none _ _ | dsimp only [apply]
  case bitvector.set len i v =>
    refine orel_iteN ?_
    cases v with
    | num x => exact orel_bitSet h _ _ _ _
    | _ => exact orel_none _ _
  case bitlist.set lim i v =>
    refine (summ_listLength h).elim (fun _ => orel_none _ _) (fun len => orel_iteN ?_)
    cases v with
    | num x => exact orel_bitSet h _ _ _ _
    | _ => exact orel_none _ _
  case bitlist.append lim v =>
    refine (summ_listLength h).elim (fun _ => orel_none _ _) (fun len => orel_iteN ?_)
    cases v with
    | num x =>
      exact orel_bind
        (orel_ite (summ_setAt (fun _ => hexp ⟨_, rfl⟩) h (.refl _) _ _) (orel_bitSet h _ _ _ _))
        (fun _ _ hs => summ_rebindRight hs _)
    | _ => exact orel_none _ _
  case bitlist.pop lim =>
    refine (summ_listLength h).elim (fun _ => orel_none _ _) (fun len => orel_iteN (orel_iteN ?_))
    exact orel_bind (orel_ite (summ_setAt_noexpand h _ _ _) (orel_bitSet h _ _ _ _))
      (fun _ _ hs => summ_popFinish hs _ _ _)
  case vector.set et len i v =>
    refine orel_iteN ?_
    cases construct H et v with
    | none => exact orel_none _ _
    | some vn => exact orel_ite (orel_spliceSet h _ _ _ _ _) (summ_setAt_noexpand h _ _ _)
  case list.set et lim i v =>
    refine (summ_listLength h).elim (fun _ => orel_none _ _) (fun len => orel_iteN ?_)
    cases construct H et v with
    | none => exact orel_none _ _
    | some vn => exact orel_ite (orel_spliceSet h _ _ _ _ _) (summ_setAt_noexpand h _ _ _)
  case list.append et lim v =>
    refine (summ_listLength h).elim (fun _ => orel_none _ _) (fun len => orel_iteN ?_)
    cases construct H et v with
    | none => exact orel_none _ _
    | some vn =>
      have hE (i d : Nat) (w : Node) : ORel (Summ H) (setAt H true a i d w) (setAt H true b i d w) :=
        summ_setAt (fun _ => hexp ⟨v, rfl⟩) h (.refl w) i d
      exact orel_bind (orel_ite (orel_ite (hE _ _ _) (orel_spliceSet h _ _ _ _ _)) (hE _ _ _))
        (fun _ _ hs => summ_rebindRight hs _)
  case list.pop et lim =>
    refine (summ_listLength h).elim (fun _ => orel_none _ _)
      (fun len => orel_iteN (orel_ite (orel_iteN ?_) ?_))
    · -- the chunk to splice into: a zero chunk when the last element is alone in its chunk
      refine ORel.elim (orel_ite (orel_some _ _ _ (.refl _)) (summ_getAt h _ _))
        (fun _ => orel_none _ _) (fun ch ch' hc => ?_)
      dsimp only
      rw [summ_spliceBasic hc]
      exact (summ_setAt_noexpand h _ _ _).elim (fun _ => orel_none _ _)
        (fun _ _ hs => summ_popFinish hs _ _ _)
    · exact (summ_setAt_noexpand h _ _ _).elim (fun _ => orel_none _ _)
        (fun _ _ hs => summ_popFinish hs _ _ _)
  case container.set fs i v =>
    cases fs[i]? with
    | none => exact orel_none _ _
    | some ft =>
      dsimp only
      cases construct H ft v with
      | none => exact orel_none _ _
      | some vn => exact summ_setAt_noexpand h _ _ _
  case union.change hasNone opts sel v =>
    exact fun u hu => ⟨u, hu, .refl u⟩

/-- All operations except `append`, no hypothesis on `H`: a write on a partial tree either
    fails or gives the partial version of the result of the same write on the complete tree (so the
    roots after the write are equal).

    What is missing: `Op.append`.  `append` writes with `expand = true`; when the path in the partial
    tree meets a summary leaf `c` that equals the zero hash of its height, the library (and the
    model) replaces it by a fresh all-zero subtree.  If `c` is the summary of a subtree holding
    DATA whose root merely collides with that zero hash, the data is lost and the roots differ
    afterwards — see `append_counterexample` below, in which the complete tree is a proper
    representation (`Impl.Repr`).  So the `append` case cannot be proved from `Impl.Repr` alone for
    a generic `H`; it holds under `ZeroInj H` (`summ_apply`). -/
theorem summ_apply_partial (H : Hash) (t : Ty) (a b : Node) (op : Op) (h : Summ H a b)
    (hop : ∀ v, op ≠ .append v) :
    Impl.apply H t a op = none ∨ ∃ a' b', Impl.apply H t a op = some a' ∧
      Impl.apply H t b op = some b' ∧ Summ H a' b' :=
  (orel_iff _ _ _).1 (orel_apply_gen H t a b op h (fun ⟨v, hv⟩ => absurd hv (hop v)))

/-- All operations, `append` included, under the explicit hypothesis that nothing but two zero
    hashes of height `d` hashes to the zero hash of height `d + 1` (implied by collision-freeness,
    `zeroInj_of_injective2`).  No `Repr` hypothesis is needed. -/
theorem summ_apply (H : Hash) (hZ : ZeroInj H) (t : Ty) (a b : Node) (op : Op) (h : Summ H a b) :
    Impl.apply H t a op = none ∨ ∃ a' b', Impl.apply H t a op = some a' ∧
      Impl.apply H t b op = some b' ∧ Summ H a' b' :=
  (orel_iff _ _ _).1 (orel_apply_gen H t a b op h (fun _ => hZ))

theorem summ_apply_of_injective2 (H : Hash) (hH : Injective2 H) (t : Ty) (a b : Node) (op : Op)
    (h : Summ H a b) :
    Impl.apply H t a op = none ∨ ∃ a' b', Impl.apply H t a op = some a' ∧
      Impl.apply H t b op = some b' ∧ Summ H a' b' :=
  summ_apply H (zeroInj_of_injective2 H hH) t a b op h

theorem summ_apply_root (H : Hash) (hZ : ZeroInj H) (t : Ty) (a b : Node) (op : Op) (h : Summ H a b)
    (a' : Node) (ha : Impl.apply H t a op = some a') :
    ∃ b', Impl.apply H t b op = some b' ∧ a'.root H = b'.root H :=
  orel_summ_root (orel_apply_gen H t a b op h (fun _ => hZ)) a' ha

theorem summ_apply_partial_root (H : Hash) (t : Ty) (a b : Node) (op : Op) (h : Summ H a b)
    (hop : ∀ v, op ≠ .append v) (a' : Node) (ha : Impl.apply H t a op = some a') :
    ∃ b', Impl.apply H t b op = some b' ∧ a'.root H = b'.root H :=
  orel_summ_root (orel_apply_gen H t a b op h (fun ⟨v, hv⟩ => absurd hv (hop v))) a' ha

/-! ### why `append` needs `ZeroInj`: a counterexample for a hash with a zero-hash collision -/

/-- a toy hash in which everything paired with a zero chunk on the right collides with the zero hash -/
def Hc : Hash := fun x y => if y = zeroChunk then zeroChunk else x ++ y

/-- `List[uint256, 2]` holding `[1]`: complete tree, and the partial tree in which the contents
    subtree (holding the element `1`) is summarised; the summary equals `zeroHash Hc 1`. -/
def cT : Ty := .list (.uint 32) 2
def cB : Node := .pair (.pair (.leaf (chunkOfLE 32 1)) (.leaf zeroChunk)) (lenNode 1)
def cA : Node := .pair (.leaf zeroChunk) (lenNode 1)
def cA' : Node := .pair (.pair (.leaf zeroChunk) (.leaf (chunkOfLE 32 2))) (lenNode 2)
def cB' : Node := .pair (.pair (.leaf (chunkOfLE 32 1)) (.leaf (chunkOfLE 32 2))) (lenNode 2)

theorem append_counterexample :
    ∃ (H : Hash) (t : Ty) (v : Val) (a b a' b' : Node) (x : Val),
      t.wf = true ∧ Summ H a b ∧ Impl.Repr H t v b ∧
      Impl.apply H t a (.append x) = some a' ∧ Impl.apply H t b (.append x) = some b' ∧
      a'.root H ≠ b'.root H := by
  refine ⟨Hc, cT, .seq [.num 1], cA, cB, cA', cB', .num 2, rfl, ?_, ?_, rfl, rfl, by decide⟩
  · -- the summary `zeroChunk` is the root of the contents subtree under `Hc`
    exact .pair _ _ _ _ (.leaf (.pair (.leaf (chunkOfLE 32 1)) (.leaf zeroChunk))) (.refl _)
  · exact ReprBasics.construct_repr Hc cT _ cB rfl rfl

end Rmk.PartialViews
