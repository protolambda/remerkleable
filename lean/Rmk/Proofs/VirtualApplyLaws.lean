/-
View-level laws of lazily loaded (virtual) trees, MUTATORS (property C20: "mutations give the same results"):
every mutator of a view over a mixed tree `m` whose source serves the materialised tree `n` (`Mat H src m n`)
fails exactly when the same mutator over `n` fails, and otherwise the new backings are again `Mat`-related
(hence have equal roots).  The mutators over `MNode` are in Rmk/Impl/VirtualApply.lean,
line-by-line mirrors of the mutating part of Rmk/Impl/View.lean.  No hypothesis on the type `t`, the operation or the values; generic in the pair
hash `H`.
-/
import Rmk.Impl.VirtualApply
import Rmk.Proofs.VirtualLaws
import Rmk.Proofs.VirtualViewLaws
namespace Rmk.VirtualApplyLaws
open Rmk Rmk.Impl Rmk.Virtual Rmk.VirtualLaws Rmk.VirtualViewLaws

/- `applyM` and `apply` are compiled to different matcher constants, which unification does not see through, so
the congruences for their `match`es are stated for those constants. -/

section
variable {α β : Type} {R : α → β → Prop}

/-- `match x with | none => none | some a => f a` on related optional nodes -/
theorem optRel_matchNode {R₀ : MNode → Node → Prop} {x : Option MNode} {y : Option Node}
    {f : MNode → Option α} {g : Node → Option β}
    (h : OptRel R₀ x y) (hfg : ∀ a b, R₀ a b → OptRel R (f a) (g b)) :
    OptRel R (summarizePathM.match_1 (fun _ => Option α) x (fun _ => none) f)
      (apply.match_1 (fun _ => Option β) y (fun _ => none) g) := by
  rcases optRel_cases h with ⟨rfl, rfl⟩ | ⟨a, b, rfl, rfl, hab⟩
  · exact optRel_none
  · exact hfg a b hab

/-- on equal optional lengths -/
theorem optRel_matchLen {x y : Option Nat} {f : Nat → Option α} {g : Nat → Option β} (hxy : x = y)
    (hfg : ∀ k, OptRel R (f k) (g k)) :
    OptRel R (applyM.match_3 (fun _ => Option α) x (fun _ => none) f)
      (readVal.match_1 (fun _ => Option β) y (fun _ => none) g) := by
  subst hxy
  cases x with
  | none => exact optRel_none
  | some k => exact hfg k

/-- on the same result of `construct` -/
theorem optRel_matchConstruct {x : Option Node} {f : Node → Option α} {g : Node → Option β}
    (hfg : ∀ vn, OptRel R (f vn) (g vn)) :
    OptRel R (applyM.match_1 (fun _ => Option α) x (fun _ => none) f)
      (apply.match_1 (fun _ => Option β) x (fun _ => none) g) := by
  cases x with
  | none => exact optRel_none
  | some vn => exact hfg vn

/-- on the same field type -/
theorem optRel_matchField {x : Option Ty} {f : Ty → Option α} {g : Ty → Option β}
    (hfg : ∀ ft, OptRel R (f ft) (g ft)) :
    OptRel R (applyM.match_5 (fun _ => Option α) x (fun _ => none) f)
      (apply.match_3 (fun _ => Option β) x (fun _ => none) g) := by
  cases x with
  | none => exact optRel_none
  | some ft => exact hfg ft

/-- `match v with | .num b => f b | _ => none` -/
theorem optRel_matchNum {v : Val} {f : Nat → Option α} {g : Nat → Option β}
    (hfg : ∀ b, OptRel R (f b) (g b)) :
    OptRel R (applyM.match_7 (fun _ => Option α) v f (fun _ => none))
      (apply.match_5 (fun _ => Option β) v g (fun _ => none)) := by
  cases v with
  | num b => exact hfg b
  | _ => exact optRel_none

/-- `match v with | .none => a | _ => none` -/
theorem optRel_matchNone {v : Val} {a : Option α} {b : Option β} (hab : OptRel R a b) :
    OptRel R (applyM.match_10 (fun _ => Option α) v (fun _ => a) (fun _ => none))
      (apply.match_8 (fun _ => Option β) v (fun _ => b) (fun _ => none)) := by
  cases v with
  | none => exact hab
  | _ => exact optRel_none

end

section
variable {H : Hash} {src : Src}

theorem mat_zeroNodeM (d : Nat) : Mat H src (zeroNodeM H d) (zeroNode H d) :=
  rfl

theorem mat_lenNodeM (k : Nat) : Mat H src (lenNodeM k) (lenNode k) :=
  rfl

theorem spliceBasicM_mat {m : MNode} {n : Node} (h : Mat H src m n) (size j v : Nat) :
    Mat H src (spliceBasicM H size m j v) (spliceBasic H size n j v) := by
  rw [spliceBasicM, mat_root h]
  exact rfl

theorem chunkWithBitM_mat {m : MNode} {n : Node} (h : Mat H src m n) (i : Nat) (b : Bool) :
    Mat H src (chunkWithBitM H m i b) (chunkWithBit H n i b) := by
  rw [chunkWithBitM, mat_root h]
  exact rfl

variable {m : MNode} {n : Node}

/-- `setter(to_gindex(i, depth), expand)(v)` -/
theorem setAtM_rel (h : Mat H src m n) {v : MNode} {v' : Node} (hv : Mat H src v v')
    (e : Bool) (i d : Nat) :
    OptRel (Mat H src) (setAtM H src e m i d v) (setAt H e n i d v') :=
  optRel_iteN (setPathM_rel e h hv _)

theorem rebindRightM_eq (src : Src) (m v : MNode) :
    rebindRightM src m v = (childM src false m).map (.pair · v) := by
  cases m with
  | virt c => dsimp only [rebindRightM, childM]; cases src c <;> rfl
  | _ => rfl

theorem rebindLeftM_eq (src : Src) (m v : MNode) :
    rebindLeftM src m v = (childM src true m).map (.pair v ·) := by
  cases m with
  | virt c => dsimp only [rebindLeftM, childM]; cases src c <;> rfl
  | _ => rfl

theorem rebindRight_eq (n v : Node) : rebindRight n v = (getLeft n).map (.pair · v) := by
  cases n <;> rfl

theorem rebindLeft_eq (n v : Node) : rebindLeft n v = (getRight n).map (.pair v ·) := by
  cases n <;> rfl

/-- `rebind_right`: a virtual node asks the source and becomes an ordinary pair -/
theorem rebindRightM_rel (h : Mat H src m n) {v : MNode} {v' : Node} (hv : Mat H src v v') :
    OptRel (Mat H src) (rebindRightM src m v) (rebindRight n v') := by
  rw [rebindRightM_eq, rebindRight_eq]
  exact (childM_mat h false).map _ _ fun _ _ hab => ⟨hab, hv⟩

theorem rebindLeftM_rel (h : Mat H src m n) {v : MNode} {v' : Node} (hv : Mat H src v v') :
    OptRel (Mat H src) (rebindLeftM src m v) (rebindLeft n v') := by
  rw [rebindLeftM_eq, rebindLeft_eq]
  exact (childM_mat h true).map _ _ fun _ _ hab => ⟨hv, hab⟩

/-- `summarize_into(target)()` -/
theorem summarizePathM_rel (h : Mat H src m n) (p : List Bool) :
    OptRel (Mat H src) (summarizePathM H src m p) (summarizePath H n p) :=
  optRel_matchNode (getPathM_rel h p) fun _ _ hab =>
    setPathM_rel false h (show Mat H src (.leaf _) (.leaf _) from mat_root hab) p

/-- shared tail of `List.pop` / `Bitlist.pop` -/
theorem popFinishM_rel (h : Mat H src m n) (target : List Bool) (cs : Bool) (newLen : Nat) :
    OptRel (Mat H src) (popFinishM H src m target cs newLen) (popFinish H n target cs newLen) :=
  optRel_bind (optRel_ite (summarizePathM_rel h _) (optRel_some h)) fun _ _ hab =>
    rebindRightM_rel hab (mat_lenNodeM _)

/-- `BitsView.set` step: read the chunk, write it back with one bit changed -/
theorem bitSetM_rel (h : Mat H src m n) (ci depth i : Nat) (bit : Bool) :
    OptRel (Mat H src)
      ((getAtM src m ci depth).bind fun chunk =>
        setAtM H src false m ci depth (chunkWithBitM H chunk i bit))
      ((getAt n ci depth).bind fun chunk => setAt H false n ci depth (chunkWithBit H chunk i bit)) :=
  optRel_bind (getAtM_rel h ci depth) fun _ _ hab =>
    setAtM_rel h (chunkWithBitM_mat hab i bit) false ci depth

/-- packed `SubtreeView.set` step: read the chunk, write it back with one element spliced in -/
theorem spliceSetM_rel (h : Mat H src m n) (ci depth size j val : Nat) :
    OptRel (Mat H src)
      (match getAtM src m ci depth with
        | none => none
        | some chunk => setAtM H src false m ci depth (spliceBasicM H size chunk j val))
      (match getAt n ci depth with
        | none => none
        | some chunk => setAt H false n ci depth (spliceBasic H size chunk j val)) :=
  optRel_matchNode (getAtM_rel h ci depth) fun _ _ hab =>
    setAtM_rel h (spliceBasicM_mat hab size j val) false ci depth

-- the congruence terms below never unfold these; opaque, so that a failed unification does not unfold them
-- (slow in a goal of this size)
attribute [local irreducible] getDepth getAt getAtM setAt setAtM in
/-- a mutator fails on the mixed tree iff it fails on the materialised one, and the new backings materialise
    to each other.  All types, all operations, all values. -/
theorem applyM_rel (h : Mat H src m n) (t : Ty) (op : Op) :
    OptRel (Mat H src) (applyM H src t m op) (apply H t n op) := by
  -- each pair (type, operation) with a mutator unfolds to the same nest of guards and `match`es on both
  -- sides, followed congruence by congruence; the pairs without one fail on both sides by definition
  cases t <;> cases op
  case bitvector.set len i v =>
    exact optRel_iteN (optRel_matchNum fun _ => bitSetM_rel h _ _ _ _)
  case bitlist.set lim i v =>
    exact optRel_matchLen (listLengthM_mat h) fun _ =>
      optRel_iteN (optRel_matchNum fun _ => bitSetM_rel h _ _ _ _)
  case bitlist.append lim v =>
    exact optRel_matchLen (listLengthM_mat h) fun _ => optRel_iteN (optRel_matchNum fun _ =>
      optRel_bind
        (optRel_ite (setAtM_rel h (chunkWithBitM_mat (mat_zeroNodeM 0) _ _) _ _ _) (bitSetM_rel h _ _ _ _))
        fun _ _ hab => rebindRightM_rel hab (mat_lenNodeM _))
  case bitlist.pop lim =>
    exact optRel_matchLen (listLengthM_mat h) fun _ => optRel_iteN (optRel_iteN
      (optRel_bind (optRel_ite (setAtM_rel h (mat_zeroNodeM 0) _ _ _) (bitSetM_rel h _ _ _ _))
        fun _ _ hab => popFinishM_rel hab _ _ _))
  case vector.set et len i v =>
    exact optRel_iteN (optRel_matchConstruct fun vn =>
      optRel_ite (spliceSetM_rel h _ _ _ _ _) (setAtM_rel h (mat_ofNode H src vn) _ _ _))
  case list.set et lim i v =>
    exact optRel_matchLen (listLengthM_mat h) fun _ => optRel_iteN (optRel_matchConstruct fun vn =>
      optRel_ite (spliceSetM_rel h _ _ _ _ _) (setAtM_rel h (mat_ofNode H src vn) _ _ _))
  case list.append et lim v =>
    exact optRel_matchLen (listLengthM_mat h) fun _ => optRel_iteN (optRel_matchConstruct fun vn =>
      optRel_bind
        (optRel_ite
          (optRel_ite (setAtM_rel h (spliceBasicM_mat (mat_zeroNodeM 0) _ _ _) _ _ _)
            (spliceSetM_rel h _ _ _ _ _))
          (setAtM_rel h (mat_ofNode H src vn) _ _ _))
        fun _ _ hab => rebindRightM_rel hab (mat_lenNodeM _))
  case list.pop et lim =>
    exact optRel_matchLen (listLengthM_mat h) fun _ => optRel_iteN (optRel_ite
      (optRel_iteN (optRel_matchNode
        (optRel_ite (optRel_some (mat_zeroNodeM 0)) (getAtM_rel h _ _)) fun _ _ hch =>
          optRel_matchNode (setAtM_rel h (spliceBasicM_mat hch _ _ _) _ _ _) fun _ _ hab =>
            popFinishM_rel hab _ _ _))
      (optRel_matchNode (setAtM_rel h (mat_zeroNodeM 0) _ _ _) fun _ _ hab =>
        popFinishM_rel hab _ _ _))
  case container.set fs i v =>
    exact optRel_matchField fun _ => optRel_matchConstruct fun vn =>
      setAtM_rel h (mat_ofNode H src vn) _ _ _
  case union.change hasNone opts sel v =>
    exact optRel_iteN (optRel_ite
      (optRel_matchNone (optRel_some ⟨mat_zeroNodeM 0, mat_lenNodeM 0⟩))
      ((optRel_refl _).map _ _ fun _ _ hab => hab ▸ ⟨mat_ofNode H src _, mat_lenNodeM sel⟩))
  all_goals exact optRel_none

theorem applyM_none_iff (h : Mat H src m n) (t : Ty) (op : Op) :
    applyM H src t m op = none ↔ apply H t n op = none :=
  (applyM_rel h t op).none_iff

theorem applyM_root (h : Mat H src m n) (t : Ty) (op : Op) (m' : MNode)
    (hm : applyM H src t m op = some m') :
    ∃ n', apply H t n op = some n' ∧ Mat H src m' n' ∧ m'.root H = n'.root H :=
  have ⟨n', hn, hmn⟩ := (applyM_rel h t op).exists_right hm
  ⟨n', hn, hmn, mat_root hmn⟩

theorem apply_rootM (h : Mat H src m n) (t : Ty) (op : Op) (n' : Node)
    (hn : apply H t n op = some n') :
    ∃ m', applyM H src t m op = some m' ∧ Mat H src m' n' ∧ m'.root H = n'.root H :=
  have ⟨m', hm, hmn⟩ := (applyM_rel h t op).exists_left hn
  ⟨m', hm, hmn, mat_root hmn⟩

/-- the same for a whole history of mutations, each applied to the backing the previous one produced -/
theorem applyM_history (t : Ty) (ops : List Op) :
    ∀ {m : MNode} {n : Node}, Mat H src m n →
      OptRel (Mat H src) (applyAllM H src t m ops) (applyAll H t n ops) := by
  induction ops with
  | nil => intro m n h; exact optRel_some h
  | cons op ops ih =>
    intro m n h
    unfold applyAllM applyAll
    exact optRel_bind (applyM_rel h t op) fun a b hab => ih hab

theorem applyM_history_root (h : Mat H src m n) (t : Ty) (ops : List Op) (m' : MNode)
    (hm : applyAllM H src t m ops = some m') :
    ∃ n', applyAll H t n ops = some n' ∧ Mat H src m' n' ∧ m'.root H = n'.root H :=
  have ⟨n', hn, hmn⟩ := (applyM_history t ops h).exists_right hm
  ⟨n', hn, hmn, mat_root hmn⟩

end

/-- a mutator of a view over the wholly virtual node `VirtualNode(n.root, src)`, whose source serves the tree
    `n`, behaves exactly like the mutator of the view over `n` -/
theorem virtual_apply {H : Hash} {src : Src} {n : Node} (hs : Serves H src n) (t : Ty) (op : Op) :
    OptRel (Mat H src) (applyM H src t (.virt (n.root H)) op) (apply H t n op) :=
  applyM_rel (mat_virt hs) t op

theorem virtual_apply_history {H : Hash} {src : Src} {n : Node} (hs : Serves H src n) (t : Ty)
    (ops : List Op) :
    OptRel (Mat H src) (applyAllM H src t (.virt (n.root H)) ops) (applyAll H t n ops) :=
  applyM_history t ops (mat_virt hs)

theorem virtual_apply_history_root {H : Hash} {src : Src} {n : Node} (hs : Serves H src n) (t : Ty)
    (ops : List Op) :
    (applyAllM H src t (.virt (n.root H)) ops).map (·.root H) = (applyAll H t n ops).map (·.root H) :=
  optRel_map_eq (virtual_apply_history hs t ops) fun _ _ hab => mat_root hab

/-- an ordinary tree seen as a mixed tree (whatever the source) -/
theorem ofNode_apply (H : Hash) (src : Src) (n : Node) (t : Ty) (op : Op) :
    OptRel (Mat H src) (applyM H src t (MNode.ofNode n) op) (apply H t n op) :=
  applyM_rel (mat_ofNode H src n) t op

/-- a toy hash without collisions on the trees below -/
private def H1 : Hash := fun a b => 255 :: (a ++ b)
/-- `List[uint8, 64]` holding 7, 8, 9 (contents of depth 1, length mix-in 3) -/
private def tL : Ty := .list (.uint 1) 64
private def nL : Node := .pair (.pair (.leaf [7, 8, 9]) (.leaf [])) (.leaf [3])
private def srcL : Src := srcOfDict (dictOf H1 nL)
private def vL : MNode := .virt (nL.root H1)

example : Serves H1 srcL nL := by decide +kernel
example : Mat H1 srcL vL nL := by decide +kernel
-- `set` through the wholly virtual backing: the path becomes ordinary pairs, the siblings stay virtual
example : applyM H1 srcL tL vL (.set 1 (.num 5)) =
    some (.pair (.pair (.leaf [7, 5, 9]) (.virt [])) (.virt [3])) := by decide +kernel
example : apply H1 tL nL (.set 1 (.num 5)) =
    some (.pair (.pair (.leaf [7, 5, 9]) (.leaf [])) (.leaf [3])) := by decide +kernel
-- out of range: both fail
example : applyM H1 srcL tL vL (.set 3 (.num 5)) = none ∧ apply H1 tL nL (.set 3 (.num 5)) = none := by
  decide +kernel
example : ((applyAllM H1 srcL tL vL [.append (.num 1), .pop, .pop]).map (·.root H1)) =
    ((applyAll H1 tL nL [.append (.num 1), .pop, .pop]).map (·.root H1)) := by decide +kernel
example : (applyAllM H1 srcL tL vL [.append (.num 1), .pop, .pop]).isSome = true := by decide +kernel

end Rmk.VirtualApplyLaws
