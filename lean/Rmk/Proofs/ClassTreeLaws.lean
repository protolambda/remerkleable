/-
Laws of `Container.fields()` on class TREES (several bases; Rmk/Impl/ClassTree.lean).
  * updating with an already flattened dict = updating with the declarations one by one
  * `fields` has no key twice, only public names
  * `fields` = one big `dictUpdate []` of all public declarations in visiting order
    (LAST declaration wins, FIRST declaration fixes the position)
  * a single chain of classes is the chain model of Rmk/Impl/Fields.lean
  * `Cls.buildable`: a class is refused iff it or one of its bases has no field (namespace
    `Rmk.VirtualPartial`)
Everything is for an arbitrary value type `α`.
-/
import Rmk.Impl.ClassTree
import Rmk.Proofs.FieldsLaws

open Rmk.Impl Rmk.FieldsLaws

namespace Rmk.ClassTreeLaws

abbrev pub {α} (xs : List (String × α)) : List (String × α) := xs.filter fun kv => isPublic kv.1

theorem fields_mk {α : Type} (bases : List (Cls α)) (ann : List (String × α)) :
    (Cls.mk bases ann).fields = fieldsStep (basesFields bases []) ann := by
  unfold Cls.fields; rfl

theorem basesFields_nil {α : Type} (acc : List (String × α)) : basesFields ([] : List (Cls α)) acc = acc := by
  unfold basesFields; rfl

theorem basesFields_cons {α : Type} (b : Cls α) (bs : List (Cls α)) (acc : List (String × α)) :
    basesFields (b :: bs) acc = basesFields bs (dictUpdate acc b.fields) := by
  rw [basesFields]

theorem dictSet_dictSet_same {α} (a : List (String × α)) (k : String) (v1 v : α) :
    dictSet (dictSet a k v1) k v = dictSet a k v := by
  fun_induction dictSet a k v1 with
  | case1 => simp [dictSet]
  | case2 => simp [dictSet]
  | case3 k1 w1 rest h ih => simp [dictSet, h, ih]

/-- two assignments to different keys commute as soon as one of the keys is already present -/
theorem dictSet_comm {α} (a : List (String × α)) (k k' : String) (v v' : α)
    (hk : k ∈ keys a) (hne : k ≠ k') :
    dictSet (dictSet a k' v') k v = dictSet (dictSet a k v) k' v' := by
  fun_induction dictSet a k v with
  | case1 => cases hk
  | case2 => simp [dictSet, hne]
  | case3 k1 w1 rest h1 ih =>
    have hm : k ∈ keys rest := (List.mem_cons.mp hk).resolve_left (Ne.symm h1)
    by_cases h2 : k1 = k'
    · subst h2
      simp [dictSet, h1]
    · simp [dictSet, h1, h2, ih hm]

theorem dictSet_dictUpdate_comm {α} (a r : List (String × α)) (k : String) (v : α)
    (hk : k ∈ keys a) (hr : k ∉ keys r) :
    dictSet (dictUpdate a r) k v = dictUpdate (dictSet a k v) r := by
  induction r generalizing a with
  | nil => rfl
  | cons hd rest ih =>
    obtain ⟨k', v'⟩ := hd
    have ⟨hne, hr'⟩ := not_or.mp (mt List.mem_cons.mpr hr)
    rw [dictUpdate_cons, dictUpdate_cons, ih _ ((mem_keys_dictSet a k' k v').mpr (Or.inr hk)) hr',
      dictSet_comm a k k' v v' hk hne]

theorem dictUpdate_dictSet {α} (acc d : List (String × α)) (k : String) (v : α) (hd : (keys d).Nodup) :
    dictUpdate acc (dictSet d k v) = dictSet (dictUpdate acc d) k v := by
  fun_induction dictSet d k v generalizing acc with
  | case1 => rfl
  | case2 v1 rest =>
    rw [dictUpdate_cons, dictUpdate_cons,
      dictSet_dictUpdate_comm (dictSet acc k v1) rest k v ((mem_keys_dictSet acc k k v1).mpr (Or.inl rfl))
        (List.nodup_cons.mp hd).1,
      dictSet_dictSet_same]
  | case3 k1 v1 rest h ih => exact ih (dictSet acc k1 v1) (List.nodup_cons.mp hd).2

theorem dictUpdate_dictUpdate {α} (acc d xs : List (String × α)) (hd : (keys d).Nodup) :
    dictUpdate acc (dictUpdate d xs) = dictUpdate (dictUpdate acc d) xs := by
  induction xs generalizing d with
  | nil => rfl
  | cons x rest ih =>
    rw [dictUpdate_cons, dictUpdate_cons, ih _ (nodup_dictSet d x.1 x.2 hd), dictUpdate_dictSet acc d x.1 x.2 hd]

/-- Updating with an already flattened dict gives the same dict as updating with the
declarations one by one (for ANY `acc`, `xs`) -/
theorem dictUpdate_flatten {α} (acc xs : List (String × α)) :
    dictUpdate acc (dictUpdate [] xs) = dictUpdate acc xs := by
  rw [dictUpdate_dictUpdate acc [] xs List.nodup_nil]
  rfl

theorem basesFields_nodup {α : Type} (bs : List (Cls α)) (acc : List (String × α)) (h : (keys acc).Nodup) :
    (keys (basesFields bs acc)).Nodup := by
  induction bs generalizing acc with
  | nil => rw [basesFields_nil]; exact h
  | cons b bs ih => rw [basesFields_cons]; exact ih _ (nodup_dictUpdate acc b.fields h)

theorem fields_nodup {α : Type} (c : Cls α) : (keys c.fields).Nodup := by
  obtain ⟨bases, ann⟩ := c
  rw [fields_mk]
  exact nodup_dictUpdate _ _ (basesFields_nodup bases [] List.nodup_nil)

/- all declarations of a class tree, in the order `fields()` visits them -/
mutual
def decls {α : Type} : Cls α → List (String × α)
  | .mk bases ann => declsList bases ++ ann
def declsList {α : Type} : List (Cls α) → List (String × α)
  | [] => []
  | b :: bs => decls b ++ declsList bs
end

theorem decls_mk {α : Type} (bases : List (Cls α)) (ann : List (String × α)) :
    decls (Cls.mk bases ann) = declsList bases ++ ann := by unfold decls; rfl
theorem declsList_nil {α : Type} : declsList ([] : List (Cls α)) = [] := by unfold declsList; rfl
theorem declsList_cons {α : Type} (b : Cls α) (bs : List (Cls α)) :
    declsList (b :: bs) = decls b ++ declsList bs := by rw [declsList]

theorem dictUpdate_pub_append {α} (acc a b : List (String × α)) :
    dictUpdate acc (pub (a ++ b)) = dictUpdate (dictUpdate acc (pub a)) (pub b) := by
  unfold pub; rw [List.filter_append, dictUpdate_append]

mutual
/-- `fields()` of a class tree is ONE update of the empty dict with all public declarations in visiting order -/
theorem fields_eq_decls {α : Type} : ∀ (c : Cls α), c.fields = dictUpdate [] (pub (decls c))
  | .mk bases ann => by
    rw [fields_mk, decls_mk, basesFields_eq_decls bases [], dictUpdate_pub_append]
    rfl
theorem basesFields_eq_decls {α : Type} : ∀ (bs : List (Cls α)) (acc : List (String × α)),
    basesFields bs acc = dictUpdate acc (pub (declsList bs))
  | [], acc => by rw [basesFields_nil, declsList_nil]; rfl
  | b :: bs, acc => by
    rw [basesFields_cons, basesFields_eq_decls bs, fields_eq_decls b, dictUpdate_flatten, declsList_cons,
      dictUpdate_pub_append]
end

/-- Last declaration (in visiting order) wins -/
theorem fields_lookup {α : Type} (c : Cls α) (k : String) :
    c.fields.lookup k = ((decls c).filter fun kv => isPublic kv.1).reverse.lookup k := by
  rw [fields_eq_decls, lookup_dictUpdate_nil]

/-- First declaration (in visiting order) fixes the position -/
theorem fields_keys {α : Type} (c : Cls α) :
    keys c.fields = (keys ((decls c).filter fun kv => isPublic kv.1)).eraseDups := by
  rw [fields_eq_decls, keys_dictUpdate_nil]

theorem fields_mem {α : Type} (c : Cls α) (kv : String × α) (h : kv ∈ c.fields) :
    kv ∈ (decls c).filter fun kv => isPublic kv.1 :=
  mem_dictUpdate_nil _ kv (fields_eq_decls c ▸ h)

theorem fields_public {α : Type} : ∀ (c : Cls α), ∀ kv ∈ c.fields, isPublic kv.1 = true :=
  fun c kv h => (List.mem_filter.mp (fields_mem c kv h)).2

theorem basesFields_public {α : Type} : ∀ (bs : List (Cls α)) (acc : List (String × α)),
    (∀ kv ∈ acc, isPublic kv.1 = true) → ∀ kv ∈ basesFields bs acc, isPublic kv.1 = true := by
  intro bs acc h
  rw [basesFields_eq_decls]
  exact fun kv hkv => (mem_dictUpdate _ _ kv hkv).elim (fun e => (List.mem_filter.mp e).2) (h kv)

theorem dictUpdate_nil_self {α} (d : List (String × α)) (h : (keys d).Nodup) : dictUpdate [] d = d := by
  rw [dictUpdate_extend [] d h fun _ _ => List.not_mem_nil, List.nil_append]

theorem fields_single_base {α : Type} (b : Cls α) (a : List (String × α)) :
    (Cls.mk [b] a).fields = fieldsStep b.fields a := by
  rw [fields_mk, basesFields_cons, basesFields_nil, dictUpdate_nil_self _ (fields_nodup b)]

theorem ofChain_foldl {α : Type} (rest : List (List (String × α))) (c0 : Cls α) :
    ∃ c, rest.foldl (fun c a => c.map fun b => Cls.mk [b] a) (some c0) = some c
      ∧ c.fields = rest.foldl fieldsStep c0.fields := by
  induction rest generalizing c0 with
  | nil => exact ⟨c0, rfl, rfl⟩
  | cons a rest ih =>
    obtain ⟨c, h1, h2⟩ := ih (Cls.mk [c0] a)
    refine ⟨c, ?_, ?_⟩
    · rw [List.foldl_cons]; exact h1
    · rw [h2, fields_single_base, List.foldl_cons]

theorem ofChain_fields {α : Type} (chain : List (List (String × α))) (c : Cls α)
    (h : Cls.ofChain chain = some c) : c.fields = fieldsChain chain := by
  cases chain with
  | nil => cases h
  | cons ann rest =>
    obtain ⟨c', h1, h2⟩ := ofChain_foldl rest (Cls.mk [] ann)
    cases h1.symm.trans h
    rw [h2, fields_mk, basesFields_nil]
    rfl

theorem ofChain_isSome {α : Type} (ann : List (String × α)) (rest : List (List (String × α))) :
    ∃ c, Cls.ofChain (ann :: rest) = some c ∧ c.fields = fieldsChain (ann :: rest) := by
  obtain ⟨c, h1, _⟩ := ofChain_foldl rest (Cls.mk [] ann)
  exact ⟨c, h1, ofChain_fields _ c h1⟩

/- swapping the bases changes the positions and, for a name both declare, the winning type -/

example : (Cls.mk [Cls.mk [] [("a", 1), ("b", 2)], Cls.mk [] [("b", 3), ("c", 4)]] [("d", 5)]).fields
    = [("a", 1), ("b", 3), ("c", 4), ("d", 5)] := by decide +kernel

example : (Cls.mk [Cls.mk [] [("b", 3), ("c", 4)], Cls.mk [] [("a", 1), ("b", 2)]] [("d", 5)]).fields
    = [("b", 2), ("c", 4), ("a", 1), ("d", 5)] := by decide +kernel

/-- `dictUpdate_flatten` is not vacuous: a flattened dict differs from the declaration list -/
example : dictUpdate [("b", 0)] (dictUpdate [] [("a", 1), ("b", 2), ("a", 3)])
    = dictUpdate [("b", 0)] [("a", 1), ("b", 2), ("a", 3)] := by decide +kernel

example : decls (Cls.mk [Cls.mk [] [("a", 1), ("_p", 9)], Cls.mk [] [("a", 3)]] [("d", 5)])
    = [("a", 1), ("_p", 9), ("a", 3), ("d", 5)] := by decide +kernel

end Rmk.ClassTreeLaws

namespace Rmk.VirtualPartial
open Rmk Rmk.Impl

section
open Rmk.ClassTreeLaws Rmk.FieldsLaws
variable {α : Type}

theorem buildable_mk (bases : List (Cls α)) (ann : List (String × α)) :
    (Cls.mk bases ann).buildable =
      (buildableList bases && !(fieldsStep (basesFields bases []) ann).isEmpty) := by
  unfold Cls.buildable; rfl

theorem buildableList_nil : buildableList ([] : List (Cls α)) = true := by unfold buildableList; rfl

theorem buildableList_cons (b : Cls α) (bs : List (Cls α)) :
    buildableList (b :: bs) = (b.buildable && buildableList bs) := by rw [buildableList]

theorem buildable_fields_ne (c : Cls α) (h : c.buildable = true) : c.fields ≠ [] := by
  obtain ⟨bases, ann⟩ := c
  rw [buildable_mk, Bool.and_eq_true] at h
  rw [fields_mk]
  intro e
  rw [e] at h
  simp at h

theorem buildableList_mem (bs : List (Cls α)) (h : buildableList bs = true) :
    ∀ b ∈ bs, b.buildable = true := by
  induction bs with
  | nil => intro b hb; cases hb
  | cons x xs ih =>
    rw [buildableList_cons, Bool.and_eq_true] at h
    intro b hb
    rcases List.mem_cons.1 hb with e | e
    · rw [e]; exact h.1
    · exact ih h.2 b e

theorem buildable_bases (bases : List (Cls α)) (ann : List (String × α))
    (h : (Cls.mk bases ann).buildable = true) : ∀ b ∈ bases, b.buildable = true := by
  rw [buildable_mk, Bool.and_eq_true] at h
  exact buildableList_mem bases h.1

theorem buildable_bases_fields_ne (bases : List (Cls α)) (ann : List (String × α))
    (h : (Cls.mk bases ann).buildable = true) : ∀ b ∈ bases, b.fields ≠ [] :=
  fun b hb => buildable_fields_ne b (buildable_bases bases ann h b hb)

/-- a class without bases: the dict of its public annotations -/
theorem fields_of_leaf (ann : List (String × α)) :
    (Cls.mk [] ann).fields = dictUpdate [] (ann.filter fun kv => isPublic kv.1) := by
  rw [fields_mk, basesFields_nil]; rfl

theorem not_buildable_private_only (ann : List (String × α)) (h : ∀ kv ∈ ann, isPublic kv.1 = false) :
    (Cls.mk [] ann).buildable = false := by
  have hf : (ann.filter fun kv => isPublic kv.1) = [] := by
    rw [List.filter_eq_nil_iff]
    intro kv hkv
    rw [h kv hkv]; simp
  rw [buildable_mk, basesFields_nil]
  show (buildableList [] && !(dictUpdate [] (ann.filter fun kv => isPublic kv.1)).isEmpty) = false
  rw [hf]
  simp [dictUpdate_nil]

theorem buildable_leaf_of_public (ann : List (String × α)) (kv : String × α) (hkv : kv ∈ ann)
    (hp : isPublic kv.1 = true) : (Cls.mk [] ann).buildable = true := by
  rw [buildable_mk, buildableList_nil, Bool.true_and, basesFields_nil]
  have hmem : kv.1 ∈ keys (fieldsStep [] ann) := by
    show kv.1 ∈ keys (dictUpdate [] (ann.filter fun kv => isPublic kv.1))
    rw [keys_dictUpdate_nil, List.mem_eraseDups]
    exact List.mem_map.2 ⟨kv, List.mem_filter.2 ⟨hkv, hp⟩, rfl⟩
  cases hfs : fieldsStep [] ann with
  | nil => rw [hfs] at hmem; simp [keys] at hmem
  | cons x xs => rfl

end

end Rmk.VirtualPartial
