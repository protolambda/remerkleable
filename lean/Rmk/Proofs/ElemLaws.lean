/-
Element-wise reads through the view API (`view[i]`, `len(view)`, `view[a:b]`) agree with the value,
on complete trees (`Repr`) and on partial trees (`Summ`).
`readElem_of_readVal` (the element read is `elemAt` of whatever the complete read returns) has no
hypothesis on the type or the tree, so it holds on partial trees too.
-/
import Rmk.Impl.Elem
import Rmk.Proofs.ChunkTree
import Rmk.Proofs.ListRel
import Rmk.Proofs.PartialViews
import Rmk.Proofs.ReprBasics
import Rmk.Proofs.TreeLaws
namespace Rmk.ElemLaws
open Rmk Rmk.Impl Rmk.Spec Rmk.ReprBasics Rmk.PartialViews Rmk.ChunkTreeLemmas

/-- a successful index loop, read at one index behind the range check of `readElem` -/
theorem guard_eq_getElem? {β} {k : Nat} {f : Nat → Option β} {l : List β}
    (h : allSome ((List.range k).map f) = some l) (i : Nat) :
    (if i ≥ k then none else f i) = l[i]? := by
  obtain ⟨hlen, hget⟩ := allSome_range_iff.1 h
  split
  · next hi => rw [List.getElem?_eq_none (hlen ▸ hi)]
  · next hi => exact hget i (Nat.lt_of_not_le hi)

theorem treeDepth_vector (et : Ty) (len : Nat) :
    treeDepth (.vector et len) = getDepth (chunkLen et len) := by
  unfold treeDepth contentsDepth hasMixIn; simp

theorem treeDepth_list (et : Ty) (lim : Nat) :
    treeDepth (.list et lim) = getDepth (chunkLen et lim) + 1 := by
  unfold treeDepth contentsDepth hasMixIn; simp

theorem treeDepth_container (fs : List Ty) :
    treeDepth (.container fs) = getDepth fs.length := by
  unfold treeDepth contentsDepth hasMixIn; simp

theorem treeDepth_bitvector (len : Nat) :
    treeDepth (.bitvector len) = getDepth ((len + 255) / 256) := by
  unfold treeDepth contentsDepth hasMixIn; simp

theorem treeDepth_bitlist (lim : Nat) :
    treeDepth (.bitlist lim) = getDepth ((lim + 255) / 256) + 1 := by
  unfold treeDepth contentsDepth hasMixIn; simp

theorem readFields_inv (H : Hash) : ∀ (fs : List Ty) (n : Node) (d k : Nat) (vs : List Val),
    readFields H fs n d k = some vs →
    vs.length = fs.length ∧
      ∀ i ft, fs[i]? = some ft → (getAt n (k + i) d).bind (readVal H ft) = vs[i]?
  | [], _, _, _, _, h => by
    cases h
    exact ⟨rfl, fun i ft hf => by simp at hf⟩
  | t :: ts, n, d, k, _, h => by
    rw [readFields] at h
    split at h
    · next v vs' hx hy =>
      cases h
      obtain ⟨hl, hg⟩ := readFields_inv H ts n d (k + 1) vs' hy
      refine ⟨congrArg (· + 1) hl, fun i ft hf => ?_⟩
      cases i with
      | zero => cases hf; exact hx
      | succ i => rw [List.getElem?_cons_succ, ← hg i ft hf, Nat.add_assoc, Nat.add_comm 1 i]
    · cases h

/-- the index loop of `readVal` on a vector or list, against the element read of `readElem` -/
theorem guard_seq_eq_elemAt {b : Bool} {k : Nat} {f g : Nat → Option Val} {v : Val} (i : Nat)
    (hv : (if b then (allSome ((List.range k).map f)).map Val.seq
      else (allSome ((List.range k).map g)).map Val.seq) = some v) :
    (if i ≥ k then none else if b then f i else g i) = elemAt v i := by
  cases b
  all_goals
    obtain ⟨vs, hvs, rfl⟩ := Option.map_eq_some_iff.1 hv
    exact guard_eq_getElem? hvs i

/-- the same for a bit vector or bit list: `readVal` collects the bits, `readElem` presents one as 0 / 1 -/
theorem guard_bits_eq_elemAt {k : Nat} {x : Nat → Option Node} {p : Nat → Node → Bool} {v : Val}
    (i : Nat) (hv : (allSome ((List.range k).map fun i => (x i).map (p i))).map Val.bits = some v) :
    (if i ≥ k then none else (x i).map fun c => Val.num (if p i c then 1 else 0)) = elemAt v i := by
  obtain ⟨bs, hbs, rfl⟩ := Option.map_eq_some_iff.1 hv
  rw [elemAt, ← guard_eq_getElem? hbs i]
  split
  · rfl
  · rw [Option.map_map]; rfl

/-- The consistency theorem: if the complete read of the view returns `v`, then `view[i]` returns element
    `i` of `v`, and fails exactly when `i` is out of range (for the kinds without element access both
    sides are `none`).  No hypothesis on `t` or on the tree. -/
theorem readElem_of_readVal (H : Hash) (t : Ty) (n : Node) (v : Val) (i : Nat)
    (hv : readVal H t n = some v) : readElem H t n i = elemAt v i := by
  cases t with
  | uint nb =>
    unfold readVal at hv; simp only [readBasicAt] at hv
    cases hv
    rfl
  | bool =>
    unfold readVal at hv; simp only [readBasicAt] at hv
    split at hv
    · cases hv
      rfl
    · obtain ⟨-, hv⟩ := Option.ite_none_right_eq_some.1 hv
      cases hv
      rfl
  | bitvector len =>
    unfold readVal at hv
    unfold readElem; simp only [treeDepth_bitvector]
    exact guard_bits_eq_elemAt i hv
  | bitlist lim =>
    unfold readVal at hv
    unfold readElem; simp only [treeDepth_bitlist]
    cases hl : listLength H n with
    | none => rw [hl] at hv; cases hv
    | some len => rw [hl] at hv; exact guard_bits_eq_elemAt i hv
  | bytevector len =>
    unfold readVal at hv; simp only at hv
    split at hv
    · cases hv
      rfl
    · obtain ⟨bs, -, rfl⟩ := Option.map_eq_some_iff.1 hv
      rfl
  | bytelist lim =>
    unfold readVal at hv
    split at hv
    · obtain ⟨-, hv⟩ := Option.ite_none_left_eq_some.1 hv
      split at hv
      · cases hv
        rfl
      · obtain ⟨bs, -, rfl⟩ := Option.map_eq_some_iff.1 hv
        rfl
    · cases hv
  | vector et len =>
    unfold readVal at hv
    unfold readElem; simp only [treeDepth_vector]
    exact guard_seq_eq_elemAt i hv
  | list et lim =>
    unfold readVal at hv
    unfold readElem; simp only [treeDepth_list]
    cases hl : listLength H n with
    | none => rw [hl] at hv; cases hv
    | some len => rw [hl] at hv; exact guard_seq_eq_elemAt i hv
  | container fs =>
    unfold readVal at hv
    obtain ⟨vs, hvs, rfl⟩ := Option.map_eq_some_iff.1 hv
    obtain ⟨hlen, hget⟩ := readFields_inv H fs n _ 0 vs hvs
    unfold readElem; simp only [treeDepth_container, elemAt]
    cases hf : fs[i]? with
    | none => rw [List.getElem?_eq_none (hlen ▸ List.getElem?_eq_none_iff.1 hf)]
    | some ft =>
      have := hget i ft hf
      rw [Nat.zero_add] at this
      exact this
  | union hasNone opts =>
    unfold readVal at hv
    split at hv
    · obtain ⟨-, hv⟩ := Option.ite_none_left_eq_some.1 hv
      split at hv
      · obtain ⟨-, hv⟩ := Option.ite_none_right_eq_some.1 hv
        cases hv
        rfl
      · obtain ⟨w, -, rfl⟩ := Option.map_eq_some_iff.1 hv
        rfl
    · cases hv

/-! Element reads on trees that represent a value, kind by kind: `repr_read` for that kind, under
the hypotheses the kind needs, composed with `readElem_of_readVal`. -/

theorem limitsOk_of_basic {et : Ty} (hb : et.isBasic = true) : limitsOk et = true := by
  cases et <;> first | rfl | cases hb

theorem readElem_repr_bitvector (H : Hash) (len : Nat) (v : Val) (n : Node) (i : Nat)
    (h : Impl.Repr H (.bitvector len) v n) : readElem H (.bitvector len) n i = elemAt v i :=
  readElem_of_readVal H _ n v i (read_bitvector h)

theorem readElem_repr_bitlist (H : Hash) (lim : Nat) (v : Val) (n : Node) (i : Nat)
    (hlim : lim < 2 ^ 256)
    (h : Impl.Repr H (.bitlist lim) v n) : readElem H (.bitlist lim) n i = elemAt v i :=
  readElem_of_readVal H _ n v i (read_bitlist hlim h)

theorem readElem_repr_vector_basic (H : Hash) (et : Ty) (len : Nat) (v : Val) (n : Node) (i : Nat)
    (hwf : et.wf = true) (hb : et.isBasic = true)
    (h : Impl.Repr H (.vector et len) v n) : readElem H (.vector et len) n i = elemAt v i :=
  readElem_of_readVal H _ n v i (read_vector hwf h fun w m => repr_read H et w m hwf (limitsOk_of_basic hb))

theorem readElem_repr_vector_composite (H : Hash) (et : Ty) (len : Nat) (v : Val) (n : Node) (i : Nat)
    (hwf : et.wf = true) (hlim : limitsOk et = true) (hb : et.isBasic = false)
    (h : Impl.Repr H (.vector et len) v n) : readElem H (.vector et len) n i = elemAt v i :=
  readElem_of_readVal H _ n v i (read_vector hwf h fun w m => repr_read H et w m hwf hlim)

theorem readElem_repr_list_basic (H : Hash) (et : Ty) (lim : Nat) (v : Val) (n : Node) (i : Nat)
    (hwf : et.wf = true) (hlim : lim < 2 ^ 256) (hb : et.isBasic = true)
    (h : Impl.Repr H (.list et lim) v n) : readElem H (.list et lim) n i = elemAt v i :=
  readElem_of_readVal H _ n v i (read_list hwf hlim h fun w m => repr_read H et w m hwf (limitsOk_of_basic hb))

theorem readElem_repr_list_composite (H : Hash) (et : Ty) (lim : Nat) (v : Val) (n : Node) (i : Nat)
    (hwf : et.wf = true) (hlim : lim < 2 ^ 256) (hlime : limitsOk et = true)
    (hb : et.isBasic = false)
    (h : Impl.Repr H (.list et lim) v n) : readElem H (.list et lim) n i = elemAt v i :=
  readElem_of_readVal H _ n v i (read_list hwf hlim h fun w m => repr_read H et w m hwf hlime)

theorem readElem_repr_container (H : Hash) (fs : List Ty) (v : Val) (n : Node) (i : Nat)
    (hwf : Ty.wfList fs = true) (hlim : limitsOkList fs = true)
    (h : Impl.Repr H (.container fs) v n) : readElem H (.container fs) n i = elemAt v i := by
  cases v with
  | seq vs =>
    obtain ⟨ns, hf, hct⟩ := h
    refine readElem_of_readVal H _ n _ i ?_
    rw [readVal, reprFields_read H fs vs ns hwf hlim hf n (getDepth fs.length) 0
      fun j hj => by rw [Nat.zero_add, ct_get hct hj, List.getElem?_eq_getElem hj]]
    rfl
  | _ => exact h.elim

/-- `view[i]` on a tree that represents `v` is element `i` of `v`; it fails exactly when `i` is out of
    range (and for the kinds without element access both sides are `none`).
    Hypotheses: `t.wf` (element encodings have a legal size) and `limitsOk t` (lengths fit the length leaf). -/
theorem readElem_repr (H : Hash) (t : Ty) (v : Val) (n : Node) (i : Nat)
    (hwf : t.wf = true) (hlim : limitsOk t = true) (h : Impl.Repr H t v n) :
    readElem H t n i = elemAt v i :=
  readElem_of_readVal H t n v i (repr_read H t v n hwf hlim h)

theorem elemAt_isSome_of_lt {v : Val} {len i : Nat} (hs : (∃ vs, v = .seq vs) ∨ (∃ bs, v = .bits bs))
    (hl : lenOf v = some len) (hi : i < len) : ∃ x, elemAt v i = some x := by
  rcases hs with ⟨vs, rfl⟩ | ⟨bs, rfl⟩
  · simp only [lenOf, Option.some.injEq] at hl
    exact ⟨vs[i]'(hl ▸ hi), List.getElem?_eq_getElem (hl ▸ hi)⟩
  · simp only [lenOf, Option.some.injEq] at hl
    have hi' : i < bs.length := hl ▸ hi
    exact ⟨.num (if bs[i] then 1 else 0), by
      simp only [elemAt, List.getElem?_eq_getElem hi', Option.map_some]⟩

theorem elemAt_none_of_ge {v : Val} {len i : Nat} (hl : lenOf v = some len) (hi : len ≤ i) :
    elemAt v i = none := by
  cases v <;> simp only [lenOf, Option.some.injEq] at hl <;> simp only [elemAt]
  · rw [List.getElem?_eq_none (hl ▸ hi)]; rfl
  · rw [List.getElem?_eq_none (hl ▸ hi)]

/-- the kinds that have a `len(view)` in the model: vector / list / bitvector / bitlist / bytevector /
    bytelist -/
def sized : Ty → Bool
  | .vector _ _ => true
  | .list _ _ => true
  | .bitvector _ => true
  | .bitlist _ => true
  | .bytevector _ => true
  | .bytelist _ => true
  | _ => false

/-- the kinds that have element access `view[i]`: vector / list / container / bitvector / bitlist -/
def indexable : Ty → Bool
  | .vector _ _ => true
  | .list _ _ => true
  | .container _ => true
  | .bitvector _ => true
  | .bitlist _ => true
  | _ => false

/-- `len(view)` on a tree that represents `v` is the number of elements of `v`
    (vector / list / bitvector / bitlist / bytevector / bytelist).  `limitsOk t` is only used for the outer
    limit of list / bitlist / bytelist; `t.wf` is not needed. -/
theorem viewLen_repr (H : Hash) (t : Ty) (v : Val) (n : Node) (hlim : limitsOk t = true)
    (hk : sized t = true) (h : Impl.Repr H t v n) : viewLen H t n = lenOf v := by
  cases t with
  | uint nb | bool | container fs | union hn opts => cases hk
  | bitvector len | bytevector len | vector et len =>
    cases v <;> first | exact h.elim | exact congrArg some h.1.symm
  | bitlist lim =>
    cases v with
    | bits bs =>
      obtain ⟨hlen, c, rfl, -⟩ := h
      exact listLength_mixin H c _ (Nat.lt_of_le_of_lt hlen (of_decide_eq_true hlim))
    | _ => exact h.elim
  | list et lim =>
    cases v with
    | seq vs =>
      obtain ⟨hlen, c, rfl, -⟩ := h
      rw [limitsOk, Bool.and_eq_true, decide_eq_true_eq] at hlim
      exact listLength_mixin H c _ (Nat.lt_of_le_of_lt hlen hlim.1)
    | _ => exact h.elim
  | bytelist lim =>
    have hr := repr_read H (.bytelist lim) v n rfl hlim h
    cases v with
    | bytes bs => unfold viewLen; simp only [hr, Option.map_some, lenOf]
    | _ => exact h.elim

theorem repr_indexable_val (H : Hash) (t : Ty) (v : Val) (n : Node) (hk : indexable t = true)
    (h : Impl.Repr H t v n) : (∃ vs, v = .seq vs) ∨ (∃ bs, v = .bits bs) := by
  cases t <;> first | cases hk | skip
  all_goals cases v <;> first | exact h.elim | exact .inl ⟨_, rfl⟩ | exact .inr ⟨_, rfl⟩

theorem mapM_all_some {α β} (f : α → Option β) : ∀ l : List α, (∀ j ∈ l, ∃ x, f j = some x) →
    l.mapM f = some (l.filterMap f) ∧ (l.filterMap f).length = l.length := by
  intro l
  induction l with
  | nil => intro _; exact ⟨rfl, rfl⟩
  | cons a l ih =>
    intro h
    obtain ⟨x, hx⟩ := h a List.mem_cons_self
    obtain ⟨h1, h2⟩ := ih (fun j hj => h j (List.mem_cons_of_mem _ hj))
    constructor
    · rw [List.mapM_cons, hx, h1, List.filterMap_cons_some hx]; rfl
    · rw [List.filterMap_cons_some hx, List.length_cons, h2, List.length_cons]

theorem sliceRead_of_readVal (H : Hash) (t : Ty) (n : Node) (v : Val) (a b : Nat)
    (hv : readVal H t n = some v) (hin : ∀ j, j < b - a → ∃ x, elemAt v (a + j) = some x) :
    sliceRead H t n a b = some ((List.range (b - a)).filterMap fun j => elemAt v (a + j)) ∧
      ((List.range (b - a)).filterMap fun j => elemAt v (a + j)).length = b - a := by
  have e : (fun j => readElem H t n (a + j)) = fun j => elemAt v (a + j) := by
    funext j; exact readElem_of_readVal H t n v (a + j) hv
  unfold sliceRead
  rw [e]
  have := mapM_all_some (fun j => elemAt v (a + j)) (List.range (b - a))
    (fun j hj => hin j (List.mem_range.1 hj))
  refine ⟨this.1, ?_⟩
  rw [this.2, List.length_range]

/-- in-range slicing = indexing: on a tree that represents `v` (of an indexable kind), for
    `b ≤ len(v)` the slice read returns the elements `a .. b-1` of `v` in order, and nothing is
    dropped (the result has length `b - a`, which is 0 when `b < a`). -/
theorem sliceRead_repr (H : Hash) (t : Ty) (v : Val) (n : Node) (a b len : Nat)
    (hwf : t.wf = true) (hlim : limitsOk t = true) (hk : indexable t = true)
    (h : Impl.Repr H t v n) (hl : lenOf v = some len) (hb : b ≤ len) :
    sliceRead H t n a b = some ((List.range (b - a)).filterMap fun j => elemAt v (a + j)) ∧
      ((List.range (b - a)).filterMap fun j => elemAt v (a + j)).length = b - a :=
  sliceRead_of_readVal H t n v a b (repr_read H t v n hwf hlim h)
    (fun j hj => elemAt_isSome_of_lt (repr_indexable_val H t v n hk h) hl (by omega))

/-- the element list of a value as the view presents it -/
def elems : Val → List Val
  | .seq vs => vs
  | .bits bs => bs.map fun b => .num (if b then 1 else 0)
  | _ => []

theorem elemAt_eq_elems (v : Val) (i : Nat) : elemAt v i = (elems v)[i]? := by
  cases v with
  | bits bs => exact List.getElem?_map.symm
  | _ => rfl

theorem lenOf_elems {v : Val} {len : Nat} (hs : (∃ vs, v = .seq vs) ∨ (∃ bs, v = .bits bs))
    (hl : lenOf v = some len) : (elems v).length = len := by
  rcases hs with ⟨vs, rfl⟩ | ⟨bs, rfl⟩ <;> simp only [lenOf, Option.some.injEq] at hl <;>
    simp [elems, hl]

theorem filterMap_range_getElem? {α} (l : List α) (a k : Nat) (h : a + k ≤ l.length) :
    (List.range k).filterMap (fun j => l[a + j]?) = (l.drop a).take k := by
  induction k with
  | zero => simp
  | succ k ih =>
    have hlt : a + k < l.length := by omega
    rw [List.range_succ, List.filterMap_append, ih (by omega)]
    simp only [List.filterMap_cons, List.filterMap_nil, List.getElem?_eq_getElem hlt]
    rw [List.take_add_one, List.getElem?_drop, List.getElem?_eq_getElem hlt]
    rfl

/-- `sliceRead_repr` with the result written as a sub-list of the element list -/
theorem sliceRead_repr_elems (H : Hash) (t : Ty) (v : Val) (n : Node) (a b len : Nat)
    (hwf : t.wf = true) (hlim : limitsOk t = true) (hk : indexable t = true)
    (h : Impl.Repr H t v n) (hab : a ≤ b) (hl : lenOf v = some len) (hb : b ≤ len) :
    sliceRead H t n a b = some (((elems v).drop a).take (b - a)) := by
  rw [(sliceRead_repr H t v n a b len hwf hlim hk h hl hb).1]
  have hlen := lenOf_elems (repr_indexable_val H t v n hk h) hl
  have e : (fun j => elemAt v (a + j)) = fun j => (elems v)[a + j]? := by
    funext j; exact elemAt_eq_elems v (a + j)
  rw [e, filterMap_range_getElem? _ _ _ (by omega)]

theorem readElem_ole (H : Hash) (t : Ty) (p n : Node) (i : Nat) (h : Summ H p n) :
    OLe (readElem H t p i) (readElem H t n i) := by
  cases t with
  | uint nb => exact ole_refl _
  | bool => exact ole_refl _
  | bytevector len => exact ole_refl _
  | bytelist lim => exact ole_refl _
  | union hn opts => exact ole_refl _
  | vector et len =>
    exact ole_ite (ole_refl _) (ole_ite (ole_packed h et _ _ i)
      (orel_bind_ole (summ_getAt h i _) fun u w hs => ole_readVal H et u w hs))
  | list et lim =>
    unfold readElem
    cases hl : listLength H p with
    | none => exact ole_none _
    | some len =>
      rw [summ_listLength_eq h len hl]
      exact ole_ite (ole_refl _) (ole_ite (ole_packed h et _ _ i)
        (orel_bind_ole (summ_getAt h i _) fun u w hs => ole_readVal H et u w hs))
  | container fs =>
    simp only [readElem]
    cases fs[i]? with
    | none => exact ole_refl _
    | some ft => exact orel_bind_ole (summ_getAt h i _) (fun u w hs => ole_readVal H ft u w hs)
  | bitvector len =>
    exact ole_ite (ole_refl _) (orel_map_ole (summ_getAt h _ _) fun u w hs => by rw [hs.root_eq])
  | bitlist lim =>
    unfold readElem
    cases hl : listLength H p with
    | none => exact ole_none _
    | some len =>
      rw [summ_listLength_eq h len hl]
      exact ole_ite (ole_refl _) (orel_map_ole (summ_getAt h _ _) fun u w hs => by rw [hs.root_eq])

/-- a successful `view[i]` on a partial tree returns what the complete tree returns: never wrong data -/
theorem readElem_summ (H : Hash) (t : Ty) (p n : Node) (i : Nat) (x : Val) (h : Summ H p n)
    (hx : readElem H t p i = some x) : readElem H t n i = some x :=
  readElem_ole H t p n i h x hx

theorem viewLen_ole (H : Hash) (t : Ty) (p n : Node) (h : Summ H p n) :
    OLe (viewLen H t p) (viewLen H t n) := by
  cases t with
  | uint nb => exact ole_refl _
  | bool => exact ole_refl _
  | container fs => exact ole_refl _
  | union hn opts => exact ole_refl _
  | vector et len => exact ole_refl _
  | bitvector len => exact ole_refl _
  | bytevector len => exact ole_refl _
  | list et lim => exact summ_listLength h
  | bitlist lim => exact summ_listLength h
  | bytelist lim => exact ole_map _ (ole_readVal H _ p n h)

theorem viewLen_summ (H : Hash) (t : Ty) (p n : Node) (k : Nat) (h : Summ H p n)
    (hk : viewLen H t p = some k) : viewLen H t n = some k :=
  viewLen_ole H t p n h k hk

theorem mapM_ole {α β} (f g : α → Option β) (h : ∀ j, OLe (f j) (g j)) :
    ∀ l : List α, OLe (l.mapM f) (l.mapM g)
  | [] => ole_refl _
  | a :: l => by
    rw [List.mapM_cons, List.mapM_cons]
    exact ole_bind (h a) fun x => ole_bind (mapM_ole f g h l) fun xs => ole_refl _

theorem sliceRead_summ (H : Hash) (t : Ty) (p n : Node) (a b : Nat) (xs : List Val) (h : Summ H p n)
    (hx : sliceRead H t p a b = some xs) : sliceRead H t n a b = some xs :=
  mapM_ole _ _ (fun j => readElem_ole H t p n (a + j) h) _ xs hx

/-- the three partial-tree laws in the "fails or agrees" form of `C17.view_read` -/
theorem readElem_summ_or (H : Hash) (t : Ty) (p n : Node) (i : Nat) (h : Summ H p n) :
    readElem H t p i = none ∨ readElem H t p i = readElem H t n i :=
  (ole_iff _ _).1 (readElem_ole H t p n i h)

theorem viewLen_summ_or (H : Hash) (t : Ty) (p n : Node) (h : Summ H p n) :
    viewLen H t p = none ∨ viewLen H t p = viewLen H t n :=
  (ole_iff _ _).1 (viewLen_ole H t p n h)

theorem sliceRead_summ_or (H : Hash) (t : Ty) (p n : Node) (a b : Nat) (h : Summ H p n) :
    sliceRead H t p a b = none ∨ sliceRead H t p a b = sliceRead H t n a b :=
  (ole_iff _ _).1 (fun xs hx => sliceRead_summ H t p n a b xs h hx)

/-- a partial tree of a represented value: successful element reads are elements of the value -/
theorem readElem_summ_repr (H : Hash) (t : Ty) (v : Val) (p n : Node) (i : Nat) (x : Val)
    (hwf : t.wf = true) (hlim : limitsOk t = true) (hr : Impl.Repr H t v n) (h : Summ H p n)
    (hx : readElem H t p i = some x) : elemAt v i = some x := by
  rw [← readElem_repr H t v n i hwf hlim hr]
  exact readElem_summ H t p n i x h hx

private def H0 : Hash := fun a b => a ++ b
private def tE : Ty := .list (.uint 1) 5
private def vE : Val := .seq [.num 1, .num 2, .num 3]
private def nE : Node :=
  .pair (.leaf ([1, 2, 3] ++ zeros 29)) (lenNode 3)
/-- the same tree with the contents replaced by a summary of their root -/
private def pE : Node := .leaf (H0 ([1, 2, 3] ++ zeros 29) (chunkOfLE 32 3))
/-- a composite list: `List[Container[uint8, uint8], 2]` holding two elements -/
private def tC : Ty := .list (.container [.uint 1, .uint 1]) 2
private def vC : Val := .seq [.seq [.num 1, .num 2], .seq [.num 3, .num 4]]

example : tE.wf = true ∧ limitsOk tE = true ∧ indexable tE = true ∧ sized tE = true := by decide

example : Impl.construct H0 tE vE = some nE := by decide +kernel

private theorem reprE : Impl.Repr H0 tE vE nE :=
  construct_repr H0 tE vE nE (by decide) (by decide +kernel)

/-- the hypotheses of `readElem_repr` are satisfiable and the conclusion is a genuine element -/
example : readElem H0 tE nE 1 = some (.num 2) :=
  (readElem_repr H0 tE vE nE 1 (by decide) (by decide) reprE).trans rfl

example : readElem H0 tE nE 3 = none :=
  (readElem_repr H0 tE vE nE 3 (by decide) (by decide) reprE).trans rfl

/-- … and so are those of `sliceRead_repr_elems` -/
example : sliceRead H0 tE nE 1 3 = some [.num 2, .num 3] :=
  (sliceRead_repr_elems H0 tE vE nE 1 3 3 (by decide) (by decide) (by decide) reprE (by decide) rfl
    (by decide)).trans rfl

example : viewLen H0 tE nE = some 3 :=
  (viewLen_repr H0 tE vE nE (by decide) (by decide) reprE).trans rfl

/-- direct evaluation of the model agrees -/
example : readElem H0 tE nE 1 = some (.num 2) ∧ readElem H0 tE nE 3 = none ∧
    sliceRead H0 tE nE 1 3 = some [.num 2, .num 3] ∧ viewLen H0 tE nE = some 3 :=
  ⟨rfl, rfl, rfl, rfl⟩

example : ∃ n, Impl.construct H0 tC vC = some n ∧ readElem H0 tC n 1 = some (.seq [.num 3, .num 4]) ∧
    readElem H0 tC n 2 = none ∧ sliceRead H0 tC n 0 2 = some [.seq [.num 1, .num 2], .seq [.num 3, .num 4]] :=
  ⟨_, rfl, rfl, rfl, rfl⟩

private def qE' : Node := .pair (.leaf (H0 ([1, 2] ++ zeros 30) ([3] ++ zeros 31))) (lenNode 3)
private def tW : Ty := .list (.uint 1) 64
private def nW : Node := .pair (.pair (.leaf ([1, 2] ++ zeros 30)) (.leaf ([3] ++ zeros 31))) (lenNode 3)

/- partial trees: with the length node kept and the contents summarised, `len` still works and element
   reads fail; with everything summarised both fail — never wrong data -/
example : Summ H0 pE nE := .leaf nE
example : Summ H0 qE' nW :=
  .pair _ _ _ _ (.leaf (.pair (.leaf ([1, 2] ++ zeros 30)) (.leaf ([3] ++ zeros 31)))) (.refl _)
example : readElem H0 tE pE 1 = none ∧ viewLen H0 tE pE = none := ⟨rfl, rfl⟩
example : readElem H0 tW nW 1 = some (.num 2) ∧ readElem H0 tW qE' 1 = none ∧
    viewLen H0 tW qE' = some 3 ∧ viewLen H0 tW nW = some 3 := ⟨rfl, rfl, rfl, rfl⟩

end Rmk.ElemLaws
