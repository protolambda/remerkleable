/-
Property C02: serialising from the backing tree (`Impl.serTree`, the mirror of `view.serialize(stream)`)
yields exactly the SSZ serialisation (`Spec.serialize`) of the represented value, together with the
correct returned byte count.  Generic in the pair hash `H`.
-/
import Rmk.Impl.Codec
import Rmk.Proofs.BytesLemmas
import Rmk.Proofs.ChunkTree
import Rmk.Proofs.ListRel
import Rmk.Proofs.Merkleize
import Rmk.Proofs.Packing
import Rmk.Proofs.ReprBasics
import Rmk.Proofs.Sizes
import Rmk.Proofs.TypeLemmas
namespace Rmk.SerTree
open Rmk Rmk.Impl Rmk.Spec
open Rmk.ChunkTreeLemmas Rmk.ConstructRoot Rmk.ReprBasics

theorem sum_eq_fixedTotal (parts : List (Bool × List UInt8)) :
    (parts.map fun (p : Bool × List UInt8) => if p.1 then p.2.length else 4).sum = fixedTotal parts := by
  induction parts with
  | nil => rfl
  | cons p rest ih =>
    obtain ⟨f, b⟩ := p
    cases f <;> simp [fixedTotal, ih]

theorem foldl_fields (parts : List (Bool × List UInt8)) (fo dy : List UInt8) (off : Nat) :
    parts.foldl (fun (acc : List UInt8 × List UInt8 × Nat) (p : Bool × List UInt8) =>
      if p.1 then (acc.1 ++ p.2, acc.2.1, acc.2.2)
      else (acc.1 ++ toLE 4 acc.2.2, acc.2.1 ++ p.2, acc.2.2 + p.2.length)) (fo, dy, off)
      = (fo ++ fixedSection parts off, dy ++ varSection parts, off + (varSection parts).length) := by
  induction parts generalizing fo dy off with
  | nil => simp [fixedSection, varSection]
  | cons p rest ih =>
    obtain ⟨f, b⟩ := p
    cases f
    · simp only [List.foldl_cons, Bool.false_eq_true, if_false, ih, fixedSection, varSection,
        List.append_assoc, List.length_append, Nat.add_assoc]
    · simp only [List.foldl_cons, if_true, ih, fixedSection, varSection, List.append_assoc]

/-- the loop of `Container.serialize` writes the interleaved encoding and returns its length -/
theorem streamFields_eq (parts : List (Bool × List UInt8)) :
    streamFields parts = (interleave parts, (interleave parts).length) := by
  unfold streamFields
  simp only [foldl_fields, sum_eq_fixedTotal, List.nil_append, Sizes.interleave_length_total]
  rw [List.take_of_length_le (Nat.le_add_left _ _)]
  rfl

theorem foldl_var (parts : List (List UInt8)) (fo dy : List UInt8) (off : Nat) :
    parts.foldl (fun (acc : List UInt8 × List UInt8 × Nat) p =>
      (acc.1 ++ toLE 4 acc.2.2, acc.2.1 ++ p, acc.2.2 + p.length)) (fo, dy, off)
      = (fo ++ fixedSection (parts.map fun p => (false, p)) off,
         dy ++ varSection (parts.map fun p => (false, p)),
         off + (varSection (parts.map fun p => (false, p))).length) := by
  rw [← foldl_fields, List.foldl_map]
  rfl

/-- the streaming offset loop of `MonoSubtreeView.serialize` -/
theorem streamVar_eq (parts : List (List UInt8)) :
    streamVar parts = (interleave (parts.map fun p => (false, p)),
      (interleave (parts.map fun p => (false, p))).length) := by
  unfold streamVar
  simp only [foldl_var, List.nil_append, Sizes.interleave_length_total,
    Sizes.fixedTotal_map_false (fun p => p)]
  rw [List.take_of_length_le (Nat.le_add_left _ _)]
  simp only [interleave, Sizes.fixedTotal_map_false (fun p => p)]

/-- the first chunks of a chunk tree `c` of leaves, read through `n` -/
theorem readChunks_prefix (H : Hash) (d d' : Nat) (init rest : List Chunk) (n c : Node)
    (hn : ∀ i, i < 2 ^ d → getAt n i d' = getAt c i d)
    (hct : ChunkTree H d ((init ++ rest).map .leaf) c) :
    readChunks H n d' init.length = some init.flatten := by
  unfold readChunks
  rw [allSome_range_eq init.length (init.map Node.leaf) (fun i => getAt n i d') (List.length_map _)
    (fun i hi => by
      rw [List.length_map] at hi
      have hi' : i < ((init ++ rest).map Node.leaf).length := by
        rw [List.length_map, List.length_append]
        exact Nat.lt_add_right _ hi
      rw [ct_get_through hn hct hi']
      simp only [List.getElem_map, List.getElem_append_left hi])]
  rw [Option.map_some, flatMap_root_map_leaf]

theorem le_of_cdiv32_eq_succ {b k : Nat} (h : (b + 31) / 32 = k + 1) : k * 32 ≤ b := by
  have := Nat.div_mul_le_self (b + 31) 32
  rw [h, Nat.succ_mul] at this
  exact Nat.le_of_add_le_add_right (Nat.le_trans this (Nat.add_le_add_left (by decide) b))

theorem bytesToChunks_concat_take (B : List UInt8) (init : List Chunk) (last : Chunk)
    (h : bytesToChunks B = init ++ [last]) :
    init.flatten ++ last.take (B.length - init.length * 32) = B := by
  have hX : init.flatten.length = init.length * 32 := by
    rw [Sizes.flatten_length_const 32 init fun c hc =>
      length_of_mem_bytesToChunks (bs := B) (h ▸ List.mem_append_left _ hc), Nat.mul_comm]
  have hlo : init.length * 32 ≤ B.length := le_of_cdiv32_eq_succ (by
    rw [← bytesToChunks_length, h, List.length_append, List.length_singleton])
  have hflat := take_bytesToChunks_flatten B
  rw [h, List.flatten_append, List.flatten_singleton, List.take_append, hX,
    List.take_of_length_le (hX ▸ hlo)] at hflat
  exact hflat

theorem packBits_length_256 (bs : List Bool) : (packBits bs).length = (bs.length + 255) / 256 := by
  rw [packBits_length, ← Nat.add_mul_div_right _ 31 (by decide : 0 < 8), Nat.div_div_eq_div_mul,
    Nat.add_assoc]

/-- `Bitvector.serialize` on a chunk tree `c` holding the packed bits, read through `n` -/
theorem serBitsRaw_ct (H : Hash) (bs : List Bool) (d d' : Nat) (n c : Node)
    (hn : ∀ i, i < 2 ^ d → getAt n i d' = getAt c i d)
    (hct : ChunkTree H d ((packBits bs).map .leaf) c) :
    serBitsRaw H n d' bs.length = some (bitsToBytes bs) := by
  by_cases h0 : bs.length = 0
  · obtain rfl := List.eq_nil_of_length_eq_zero h0
    rfl
  have hne : packBits bs ≠ [] := List.ne_nil_of_length_pos (by
    rw [packBits_length_256]
    exact Nat.div_pos (Nat.add_le_add_right (Nat.pos_of_ne_zero h0) 255) (by decide))
  obtain ⟨init, last, hsplit⟩ : ∃ init last, packBits bs = init ++ [last] :=
    ⟨_, _, (List.dropLast_concat_getLast hne).symm⟩
  have hlen : (bs.length + 255) / 256 = init.length + 1 := by
    rw [← packBits_length_256, hsplit, List.length_append, List.length_singleton]
  have hB := bytesToChunks_concat_take (bitsToBytes bs) init last (by
    rw [← Spec.pack, ← packBits_eq_pack, hsplit])
  rw [hsplit] at hct
  have hlast : getAt n init.length d' = some (.leaf last) := by
    rw [ct_get_through hn hct (i := init.length) (by simp)]
    simp
  rw [serBitsRaw, hlen, Nat.add_sub_cancel, readChunks_prefix H d d' init [last] n c hn hct, hlast]
  simp only [Nat.succ_pos, if_true, gt_iff_lt, Option.map_some, Node.root, ← bitsToBytes_length bs,
    hB]

theorem addDelimiter_aux (pre last : List Bool) (h8 : 8 ∣ pre.length) (h0 : 0 < last.length)
    (h7 : last.length < 8) :
    addDelimiter (bitsToBytes (pre ++ last)) (pre ++ last).length
      = bitsToBytes ((pre ++ last) ++ [true]) := by
  have hmod : (pre ++ last).length % 8 = last.length := by
    obtain ⟨q, hq⟩ := h8
    rw [List.length_append, hq, Nat.mul_add_mod]
    exact Nat.mod_eq_of_lt h7
  have hnat : (UInt8.ofNat (bitsToNat last)).toNat = bitsToNat last :=
    toNat_ofNat_bitsToNat (Nat.le_of_lt h7)
  have hdiv : bitsToNat last / 2 ^ last.length = 0 := Nat.div_eq_of_lt (bitsToNat_lt last)
  have hlen0 : (pre ++ last).length ≠ 0 :=
    Nat.ne_of_gt (Nat.lt_of_lt_of_le h0 (List.length_append ▸ Nat.le_add_left _ _))
  rw [List.append_assoc, bitsToBytes_append_last pre last h8 h0 (Nat.le_of_lt h7),
    bitsToBytes_append_last pre (last ++ [true]) h8 (by simp) (by rw [List.length_append]; exact h7)]
  unfold addDelimiter
  rw [if_neg hlen0, hmod, if_neg (by simpa using Nat.ne_of_gt h0)]
  -- the delimiter's position in the last byte is clear (`hdiv`), so the xor sets it
  simp [hnat, hdiv, bitsToNat_append]

/-- `Bitlist.serialize`: the delimiter bit -/
theorem addDelimiter_spec (bs : List Bool) :
    addDelimiter (bitsToBytes bs) bs.length = bitsToBytes (bs ++ [true]) := by
  obtain ⟨pre, last, rfl, h8, h7⟩ := exists_full_bytes_append bs
  by_cases h0 : 0 < last.length
  · exact addDelimiter_aux pre last h8 h0 h7
  obtain rfl := List.eq_nil_of_length_eq_zero (Nat.eq_zero_of_not_pos h0)
  rw [List.append_nil]
  by_cases hp : pre.length = 0
  · obtain rfl := List.eq_nil_of_length_eq_zero hp
    rfl
  · unfold addDelimiter
    rw [if_neg hp, Nat.mod_eq_zero_of_dvd h8, bitsToBytes_append pre [true] h8]
    rfl

/-- the per-element encoding used by the packed fast path is the SSZ encoding -/
theorem enc_basic (et : Ty) (v : Val) : et.isBasic = true → WT et v = true →
    (match et with
      | .bool => [UInt8.ofNat (numOf v)]
      | _ => toLE et.basicSize (numOf v)) = Spec.serialize et v := by
  intro hb hwt
  cases et with
  | uint nb =>
    obtain ⟨x, rfl, -⟩ := WT_uint_inv hwt
    rfl
  | bool =>
    obtain ⟨x, rfl, -⟩ := WT_bool_inv hwt
    rfl
  | _ => cases hb

theorem isFixed_basic (et : Ty) (hb : et.isBasic = true) : Spec.isFixed et = true := by
  cases et <;> simp [Ty.isBasic] at hb <;> rfl

theorem fixedLen_basic (et : Ty) (hb : et.isBasic = true) : Spec.fixedLen et = et.basicSize := by
  cases et <;> simp [Ty.isBasic] at hb <;> rfl

/-- SSZ serialisation of a homogeneous sequence (what `serialize (.vector et _) (.seq vs)` and
    `serialize (.list et _) (.seq vs)` unfold to) -/
def seqSer (et : Ty) (vs : List Val) : List UInt8 :=
  interleave (vs.map fun v => (isFixed et, serialize et v))

theorem seqSer_fixed (et : Ty) (vs : List Val) (hf : Spec.isFixed et = true) :
    seqSer et vs = (vs.map (serialize et)).flatten := by
  rw [seqSer, hf]
  exact Sizes.interleave_map_true (serialize et) vs

theorem seqSer_var (et : Ty) (vs : List Val) (hf : ¬ Spec.isFixed et = true) :
    seqSer et vs = interleave ((vs.map (serialize et)).map fun p => (false, p)) := by
  have : Spec.isFixed et = false := by simpa using hf
  rw [seqSer, this, List.map_map]
  rfl

theorem seqSer_fixed_length (et : Ty) (vs : List Val) (hwf : et.wf = true)
    (hf : Spec.isFixed et = true) (hwt : ∀ v ∈ vs, WT et v = true) :
    (seqSer et vs).length = Spec.fixedLen et * vs.length := by
  rw [seqSer_fixed et vs hf, Sizes.flatten_length_const (Spec.fixedLen et), List.length_map]
  intro p hp
  obtain ⟨v, hv, rfl⟩ := List.mem_map.1 hp
  exact serialize_fixed et v hwf (hwt v hv) hf

/-- element `i` of an unpacked vector or list: its node sits in the chunk tree `c` of depth `d`,
    which is read through `n` -/
theorem elems_getAt {H : Hash} {et : Ty} {vs : List Val} {ns : List Node} {n c : Node} {d d' : Nat}
    (hn : ∀ i, i < 2 ^ d → getAt n i d' = getAt c i d) (hall : AllRel (Impl.Repr H et) vs ns)
    (hct : ChunkTree H d ns c) (i : Nat) (hi : i < vs.length) :
    ∃ m, getAt n i d' = some m ∧ Impl.Repr H et vs[i] m := by
  have hi' : i < ns.length := allRel_length hall ▸ hi
  exact ⟨ns[i], ct_get_through hn hct hi', allRel_get hall i hi hi'⟩

/-- `MonoSubtreeView.serialize` for the elements of a vector or list, read as in `elems_getAt`:
    packed basic elements, or one node per element -/
theorem serSeqWith_repr (H : Hash) (et : Ty) (vs : List Val) (n c : Node) (d d' : Nat)
    (hwf : et.wf = true)
    (ih : ∀ w m, Impl.Repr H et w m →
      serTree H et m = some (serialize et w, (serialize et w).length))
    (hn : ∀ i, i < 2 ^ d → getAt n i d' = getAt c i d)
    (h : SeqRepr H et d vs c) :
    serSeqWith H (serTree H et) et n d' vs.length = some (seqSer et vs, (seqSer et vs).length) := by
  have hwt := seqRepr_wt h fun w _ m => repr_wt H et w m
  unfold serSeqWith
  unfold SeqRepr at h
  by_cases hb : et.isBasic = true
  · rw [if_pos hb] at h ⊢
    have hf := isFixed_basic et hb
    dsimp only
    rw [allSome_range_eq vs.length (vs.map (serialize et)) _ (List.length_map _) (fun i hi => by
        have hi' : i < vs.length := List.length_map (as := vs) _ ▸ hi
        obtain ⟨hrd, hlt⟩ := read_packed_elem H et vs d c hwf hb hwt h.2 i hi'
        obtain ⟨m, hm, hr⟩ := Option.bind_eq_some_iff.1 hrd
        rw [hn _ hlt, hm, Option.bind_some, hr, Option.map_some, List.getElem_map]
        exact congrArg some (enc_basic et vs[i] hb (hwt _ (List.getElem_mem _)))),
      Option.map_some, seqSer_fixed_length et vs hwf hf hwt, seqSer_fixed et vs hf,
      fixedLen_basic et hb]
  · rw [if_neg hb] at h ⊢
    obtain ⟨ns, hall, hct⟩ := h
    rw [allSome_range_eq _ (vs.map fun v => (serialize et v, (serialize et v).length)) _
      (List.length_map _) (fun i hi => by
        obtain ⟨m, hm, hr⟩ := elems_getAt hn hall hct i (List.length_map (as := vs) _ ▸ hi)
        rw [hm, List.getElem_map]
        exact ih _ _ hr)]
    simp only [List.map_map, Function.comp_def]
    by_cases hf : Spec.isFixed et = true
    · rw [if_pos hf, seqSer_fixed_length et vs hwf hf hwt, seqSer_fixed et vs hf]
    · rw [if_neg hf, streamVar_eq, seqSer_var et vs hf]

theorem ReprFields_nil_inv {H : Hash} {vs : List Val} {ns : List Node}
    (h : ReprFields H [] vs ns) : vs = [] ∧ ns = [] := by
  cases vs with
  | nil => cases ns with
    | nil => exact ⟨rfl, rfl⟩
    | cons m ms => exact h.elim
  | cons v vs => exact h.elim

theorem ReprFields_cons_inv {H : Hash} {t : Ty} {ts : List Ty} {vs : List Val} {ns : List Node}
    (h : ReprFields H (t :: ts) vs ns) :
    ∃ v vs' m ms, vs = v :: vs' ∧ ns = m :: ms ∧ Impl.Repr H t v m ∧ ReprFields H ts vs' ms := by
  cases vs with
  | nil => exact h.elim
  | cons v vs' => cases ns with
    | nil => exact h.elim
    | cons m ms => exact ⟨v, vs', m, ms, rfl, rfl, h⟩

/-- the tree of a union value as its readers meet it: the selector is read back from the right
    leaf (it is below the option count of a well-formed union, so fits the leaf); on the left is
    the zero chunk for the `None` option, else a tree of the selected option -/
theorem repr_union_inv {H : Hash} {hn : Bool} {opts : List Ty} {v : Val} {n : Node}
    (hwf : (Ty.union hn opts).wf = true) (h : Impl.Repr H (.union hn opts) v n) :
    ∃ sel w c s, v = .un sel w ∧ n = .pair c s ∧ readLen H s = sel ∧ ¬ sel ≥ optCount hn opts ∧
      ((hn && sel == 0) = true ∧ w = .none ∧ (c.root H == zeroChunk) = true ∨
        ¬ (hn && sel == 0) = true ∧ ReprOpt H opts (optIndex hn sel) w c) := by
  obtain ⟨sel, w, rfl, -⟩ := WT_union_inv (repr_wt H _ _ _ h)
  obtain ⟨hsel, c, rfl, h⟩ := h
  have hcnt :=
    (Bool.and_eq_true_iff.1 (Bool.and_eq_true_iff.1 (Bool.and_eq_true_iff.1 hwf).1).1).2
  have hlt : sel < 2 ^ 256 :=
    Nat.lt_of_lt_of_le hsel (Nat.le_trans (of_decide_eq_true hcnt) (by decide))
  refine ⟨sel, w, c, _, rfl, rfl, readLen_lenNode H sel hlt, Nat.not_le_of_gt hsel, ?_⟩
  by_cases hc : (hn && sel == 0) = true
  · rw [if_pos hc] at h
    obtain ⟨rfl, rfl⟩ := h
    exact .inl ⟨hc, rfl, by rw [zeroNode_root, zeroHash_zero, beq_self_eq_true]⟩
  · rw [if_neg hc] at h
    exact .inr ⟨hc, h⟩

/-! One lemma per type former, with the statement for the component types as a premise; `Repr` is
inverted by first reading the shape of the value off `repr_wt`, after which it unfolds by
computation. -/

def SerOk (H : Hash) (t : Ty) : Prop :=
  ∀ v n, t.wf = true → limitsOk t = true → Impl.Repr H t v n →
    serTree H t n = some (Spec.serialize t v, (Spec.serialize t v).length)

theorem ser_uint (H : Hash) (nb : Nat) : SerOk H (.uint nb) := by
  intro v n hwf hlim h
  have hr : readBasicAt H (.uint nb) n 0 = some v := repr_read H _ _ _ hwf hlim h
  obtain ⟨x, rfl, -⟩ := WT_uint_inv (repr_wt H _ _ _ h)
  unfold serTree Spec.serialize; simp only [hr, toLE_length]

theorem ser_bool (H : Hash) : SerOk H .bool := by
  intro v n hwf hlim h
  have hr : readBasicAt H .bool n 0 = some v := repr_read H _ _ _ hwf hlim h
  obtain ⟨x, rfl, -⟩ := WT_bool_inv (repr_wt H _ _ _ h)
  unfold serTree Spec.serialize; simp only [hr, List.length_singleton]

theorem ser_bitvector (H : Hash) (len : Nat) : SerOk H (.bitvector len) := by
  intro v n _ _ h
  obtain ⟨bs, rfl, -⟩ := WT_bitvector_inv (repr_wt H _ _ _ h)
  obtain ⟨rfl, hct⟩ := h
  unfold serTree Spec.serialize; simp only [serBitsRaw_ct H bs _ _ n n (fun _ _ => rfl) hct, Option.map_some,
    bitsToBytes_length]

theorem ser_bitlist (H : Hash) (lim : Nat) : SerOk H (.bitlist lim) := by
  intro v n _ hlim h
  obtain ⟨bs, rfl, hlen⟩ := WT_bitlist_inv (repr_wt H _ _ _ h)
  obtain ⟨-, c, rfl, hct⟩ := h
  have hlt : bs.length < 2 ^ 256 := Nat.lt_of_le_of_lt hlen (of_decide_eq_true hlim)
  unfold serTree; simp only [listLength_mixin H c _ hlt]
  rw [serBitsRaw_ct H bs _ _ (mixInNode c bs.length) c (fun i hi => getAt_mixin c _ hi) hct]
  unfold Spec.serialize; simp only [Option.map_some, addDelimiter_spec, bitsToBytes_length,
    List.length_append, List.length_singleton, Nat.add_assoc]

theorem ser_bytevector (H : Hash) (len : Nat) : SerOk H (.bytevector len) := by
  intro v n hwf hlim h
  have hr := repr_read H _ _ _ hwf hlim h
  obtain ⟨bs, rfl, -⟩ := WT_bytevector_inv (repr_wt H _ _ _ h)
  unfold serTree Spec.serialize; simp only [hr]

theorem ser_bytelist (H : Hash) (lim : Nat) : SerOk H (.bytelist lim) := by
  intro v n hwf hlim h
  have hr := repr_read H _ _ _ hwf hlim h
  obtain ⟨bs, rfl, -⟩ := WT_bytelist_inv (repr_wt H _ _ _ h)
  unfold serTree Spec.serialize; simp only [hr]

theorem ser_vector (H : Hash) (et : Ty) (len : Nat) (ih : SerOk H et) :
    SerOk H (.vector et len) := by
  intro v n hwf hlim h
  obtain ⟨vs, rfl, -⟩ := WT_vector_inv (repr_wt H _ _ _ h)
  obtain ⟨rfl, h⟩ := h
  have hwf := (Ty.wf_vector hwf).2
  rw [serTree]
  exact serSeqWith_repr H et vs n n _ _ hwf (fun w m => ih w m hwf hlim) (fun _ _ => rfl) h

theorem ser_list (H : Hash) (et : Ty) (lim : Nat) (ih : SerOk H et) :
    SerOk H (.list et lim) := by
  intro v n hwf hlim h
  obtain ⟨vs, rfl, hlen, -⟩ := WT_list_inv (repr_wt H _ _ _ h)
  obtain ⟨-, c, rfl, h⟩ := h
  have hlim := Bool.and_eq_true_iff.1 hlim
  have hlt : vs.length < 2 ^ 256 := Nat.lt_of_le_of_lt hlen (of_decide_eq_true hlim.1)
  unfold serTree; simp only [listLength_mixin H c _ hlt]
  exact serSeqWith_repr H et vs _ c _ _ hwf (fun w m => ih w m hwf hlim.2)
    (fun i hi => getAt_mixin c _ hi) h

theorem serFields_spec (H : Hash) (fs : List Ty) (ih : ∀ t ∈ fs, SerOk H t) (vs : List Val)
    (ns : List Node) (hwf : Ty.wfList fs = true) (hlim : limitsOkList fs = true)
    (h : ReprFields H fs vs ns) (n : Node) (depth k : Nat)
    (hget : ∀ i, i < ns.length → getAt n (k + i) depth = ns[i]?) :
    serFields H fs n depth k = some (Spec.serializeFields fs vs) := by
  induction fs generalizing vs ns k with
  | nil =>
    obtain ⟨rfl, rfl⟩ := ReprFields_nil_inv h
    rfl
  | cons t ts ihs =>
    obtain ⟨v, vs, m, ms, rfl, rfl, hv, hvs⟩ := ReprFields_cons_inv h
    have hwf := Ty.wfList_cons hwf
    have hlim := Bool.and_eq_true_iff.1 hlim
    obtain ⟨h0, hget'⟩ := getAt_cons_shift hget
    have ih1 := ih t List.mem_cons_self v m hwf.1 hlim.1 hv
    have ih2 := ihs (fun t' ht' => ih t' (List.mem_cons_of_mem _ ht')) vs ms hwf.2 hlim.2 hvs
      (k + 1) hget'
    simp only [serFields, h0, Option.bind_some, ih1, ih2, Spec.serializeFields]

theorem serOpt_spec (H : Hash) (opts : List Ty) (ih : ∀ t ∈ opts, SerOk H t) (k : Nat) (v : Val)
    (c : Node) (hwf : Ty.wfList opts = true) (hlim : limitsOkList opts = true)
    (h : ReprOpt H opts k v c) :
    serOpt H opts k c = some (Spec.serializeOpt opts k v, (Spec.serializeOpt opts k v).length) := by
  induction opts generalizing k with
  | nil => exact h.elim
  | cons t ts ihs =>
    have hwf := Ty.wfList_cons hwf
    have hlim := Bool.and_eq_true_iff.1 hlim
    cases k with
    | zero => exact ih t List.mem_cons_self v c hwf.1 hlim.1 h
    | succ k => exact ihs (fun t' ht' => ih t' (List.mem_cons_of_mem _ ht')) k hwf.2 hlim.2 h

theorem ser_container (H : Hash) (fs : List Ty) (ih : ∀ t ∈ fs, SerOk H t) :
    SerOk H (.container fs) := by
  intro v n hwf hlim h
  obtain ⟨vs, rfl, -⟩ := WT_container_inv (repr_wt H _ _ _ h)
  obtain ⟨ns, hf, hct⟩ := h
  unfold serTree Spec.serialize
  rw [serFields_spec H fs ih vs ns (Ty.wf_container hwf).2 hlim hf n _ 0 (fun i hi => by
    rw [Nat.zero_add, ct_get hct hi, List.getElem?_eq_getElem hi])]
  simp only [Option.map_some, streamFields_eq]

theorem ser_union (H : Hash) (hasNone : Bool) (opts : List Ty) (ih : ∀ t ∈ opts, SerOk H t) :
    SerOk H (.union hasNone opts) := by
  intro v n hwf hlim h
  obtain ⟨sel, w, c, s, rfl, rfl, hs, hsel, h⟩ := repr_union_inv hwf h
  unfold serTree; simp only [getLeft, getRight, hs, if_neg hsel]
  obtain ⟨hc, rfl, hz⟩ | ⟨hc, h⟩ := h
  · unfold Spec.serialize; simp only [if_pos hc, hz, if_true, List.length_singleton]
  · rw [if_neg hc, serOpt_spec H opts ih _ w c (Ty.wf_union hwf).2 hlim h]
    unfold Spec.serialize; simp only [Option.map_some, hc, Bool.false_eq_true, if_false,
      List.length_cons, Nat.add_comm]

theorem ser_all (H : Hash) : ∀ t, SerOk H t :=
  ty_induction (ser_uint H) (ser_bool H) (ser_bitvector H) (ser_bitlist H) (ser_bytevector H)
    (ser_bytelist H) (ser_vector H) (ser_list H) (ser_container H) (ser_union H)

variable (H : Hash)

/-- C02: serialising from ANY tree that represents `v` yields the SSZ serialisation of `v`, and the
    returned count is its length.  `hlim`: every list / bitlist / bytelist limit in `t` is `< 2^256`
    (the length is read back from a 32-byte leaf). -/
theorem repr_ser (t : Ty) (v : Val) (n : Node) (hwf : t.wf = true) (hlim : limitsOk t = true)
    (h : Impl.Repr H t v n) :
    Impl.serTree H t n = some (Spec.serialize t v, (Spec.serialize t v).length) :=
  ser_all H t v n hwf hlim h

/-- container fields: the per-field `(isFixed, bytes)` list handed to the streaming loop -/
theorem reprFields_ser (fs : List Ty) (vs : List Val) (ns : List Node)
    (hwf : Ty.wfList fs = true) (hlim : limitsOkList fs = true) (h : ReprFields H fs vs ns)
    (n : Node) (depth k : Nat) (hget : ∀ i, i < ns.length → getAt n (k + i) depth = ns[i]?) :
    Impl.serFields H fs n depth k = some (Spec.serializeFields fs vs) :=
  serFields_spec H fs (fun t _ => ser_all H t) vs ns hwf hlim h n depth k hget

theorem reprOpt_ser (opts : List Ty) (k : Nat) (v : Val) (c : Node)
    (hwf : Ty.wfList opts = true) (hlim : limitsOkList opts = true) (h : ReprOpt H opts k v c) :
    Impl.serOpt H opts k c
      = some (Spec.serializeOpt opts k v, (Spec.serializeOpt opts k v).length) :=
  serOpt_spec H opts (fun t _ => ser_all H t) k v c hwf hlim h

theorem repr_ser_unique (t : Ty) (v : Val) (n n' : Node) (hwf : t.wf = true)
    (hlim : limitsOk t = true) (h : Impl.Repr H t v n) (h' : Impl.Repr H t v n') :
    Impl.serTree H t n = Impl.serTree H t n' := by
  rw [repr_ser H t v n hwf hlim h, repr_ser H t v n' hwf hlim h']

end Rmk.SerTree
