/-
C05, content clause: after a mutation through a child view, every enclosing view REPRESENTS the
updated value.  `Rmk/Proofs/StoreLaws.lean` proves the tree-level statement (the parent has the new
child node at the hook key); here it is lifted to values with the refinement relation `Impl.Repr`:
`child_cases` relates `childOf` / `setChildNode` on a node to `getChildVal` / `setChildVal` on the
value it represents, `setBacking_levels` carries that up the hook chain of a store whose views are
`Coherent` with a valuation, and `updateAt` gives the result in closed form along key paths.
Everything is generic in the pair hash `H`.
-/
import Rmk.Proofs.ChunkTree
import Rmk.Proofs.ConstructRoot
import Rmk.Proofs.ListRel
import Rmk.Proofs.PackArith
import Rmk.Proofs.Packing
import Rmk.Proofs.PathAddress
import Rmk.Proofs.ReprBasics
import Rmk.Proofs.SerTree
import Rmk.Proofs.StepRepr
import Rmk.Proofs.StepReprLemmas
import Rmk.Proofs.StoreLaws
import Rmk.Proofs.TypeLemmas
namespace Rmk.StoreContent
open Rmk Rmk.Impl Rmk.Spec
open Rmk.ChunkTreeLemmas Rmk.ReprBasics Rmk.StoreLaws

/-- The value-level effect of the hook `parent.set(key, child)`: list / vector element `key`
    replaced (`key < length`), container field `key` replaced, union value replaced (same selector;
    the key of a union hook is ignored, as in `childOf` / `setChildNode`). -/
def setChildVal : Ty → Val → Nat → Val → Option Val
  | .vector _ _, .seq vs, key, cv => if key < vs.length then some (.seq (vs.set key cv)) else none
  | .list _ _, .seq vs, key, cv => if key < vs.length then some (.seq (vs.set key cv)) else none
  | .container _, .seq vs, key, cv => if key < vs.length then some (.seq (vs.set key cv)) else none
  | .union _ _, .un sel _, _, cv => some (.un sel cv)
  | _, _, _, _ => none

/-- The value-level `childOf`: type and value of the child view of a composite value at `key`
    (`none` where `childOf` gives no mutable child view: basic elements, the `None` option, keys
    out of range). -/
def getChildVal : Ty → Val → Nat → Option (Ty × Val)
  | .vector et _, .seq vs, key => if et.isBasic then none else (vs[key]?).map fun x => (et, x)
  | .list et _, .seq vs, key => if et.isBasic then none else (vs[key]?).map fun x => (et, x)
  | .container fs, .seq vs, key =>
    match fs[key]?, vs[key]? with
    | some ft, some x => some (ft, x)
    | _, _ => none
  | .union hasNone opts, .un sel x, _ => (optType hasNone opts sel).map fun ot => (ot, x)
  | _, _, _ => none

theorem getChildVal_inv {t : Ty} {v : Val} {key : Nat} {ct : Ty} {cv : Val}
    (h : getChildVal t v key = some (ct, cv)) :
    (∃ vs, v = .seq vs ∧ vs[key]? = some cv ∧
      (∀ x, setChildVal t v key x = some (.seq (vs.set key x))) ∧
      (∀ vs' : List Val, getChildVal t (.seq vs') key = (vs'[key]?).map fun x => (ct, x))) ∨
    (∃ sel, v = .un sel cv ∧ (∀ x, setChildVal t v key x = some (.un sel x)) ∧
      (∀ x, getChildVal t (.un sel x) key = some (ct, x))) := by
  have hlt {vs : List Val} (hx : vs[key]? = some cv) : key < vs.length :=
    (List.getElem?_eq_some_iff.1 hx).1
  cases t with
  | vector et _ | list et _ =>
    cases v with
    | seq vs =>
      obtain ⟨hb, h⟩ := Option.ite_none_left_eq_some.1 h
      obtain ⟨x, hx, he⟩ := Option.map_eq_some_iff.1 h
      cases he
      exact .inl ⟨vs, rfl, hx, fun x => if_pos (hlt hx), fun vs' => if_neg hb⟩
    | _ => cases h
  | container fs =>
    cases v with
    | seq vs =>
      unfold getChildVal at h; simp only at h
      split at h
      · next ft x hf hx =>
        cases h
        exact .inl ⟨vs, rfl, hx, fun x => if_pos (hlt hx), fun vs' => by
          unfold getChildVal; simp only [hf]
          cases vs'[key]? <;> rfl⟩
      · cases h
    | _ => cases h
  | union hn opts =>
    cases v with
    | un sel x =>
      obtain ⟨ot, ho, he⟩ := Option.map_eq_some_iff.1 h
      cases he
      exact .inr ⟨sel, rfl, fun x => rfl, fun x => by unfold getChildVal; simp only [ho, Option.map_some]⟩
    | _ => cases h
  | _ => cases h

theorem setChildVal_self {t : Ty} {v : Val} {key : Nat} {ct : Ty} {cv : Val}
    (h : getChildVal t v key = some (ct, cv)) : setChildVal t v key cv = some v := by
  rcases getChildVal_inv h with ⟨vs, rfl, hx, hs, -⟩ | ⟨sel, rfl, hs, -⟩
  · obtain ⟨hlt, he⟩ := List.getElem?_eq_some_iff.1 hx
    rw [hs, ← he, List.set_getElem_self]
  · exact hs cv

theorem setChildVal_isSome {t : Ty} {v : Val} {key : Nat} {ct : Ty} {cv : Val}
    (h : getChildVal t v key = some (ct, cv)) (cv' : Val) :
    ∃ v', setChildVal t v key cv' = some v' := by
  rcases getChildVal_inv h with ⟨vs, rfl, -, hs, -⟩ | ⟨sel, rfl, hs, -⟩
  · exact ⟨_, hs cv'⟩
  · exact ⟨_, hs cv'⟩

theorem getChildVal_setChildVal {t : Ty} {v v' : Val} {key : Nat} {ct : Ty} {cv cv' : Val}
    (h : getChildVal t v key = some (ct, cv)) (hs : setChildVal t v key cv' = some v') :
    getChildVal t v' key = some (ct, cv') := by
  rcases getChildVal_inv h with ⟨vs, rfl, hx, hs', hg⟩ | ⟨sel, rfl, hs', hg⟩
  · rw [hs'] at hs
    cases hs
    rw [hg, List.getElem?_set_self (List.getElem?_eq_some_iff.1 hx).1]
    rfl
  · rw [hs'] at hs
    cases hs
    exact hg cv'

theorem optType_some {hasNone : Bool} {opts : List Ty} {sel : Nat} {ot : Ty}
    (h : optType hasNone opts sel = some ot) :
    ¬ (hasNone && sel == 0) = true ∧ opts[optIndex hasNone sel]? = some ot := by
  unfold optType at h
  split at h
  · simp at h
  · rename_i hc
    exact ⟨hc, h⟩

theorem getChildVal_wf {t : Ty} {v : Val} {key : Nat} {ct : Ty} {cv : Val}
    (hwf : t.wf = true) (hlim : limitsOk t = true) (h : getChildVal t v key = some (ct, cv)) :
    ct.wf = true ∧ limitsOk ct = true := by
  unfold getChildVal at h
  split at h
  · split at h
    · cases h
    · obtain ⟨x, -, he⟩ := Option.map_eq_some_iff.1 h
      cases he
      exact ⟨(Ty.wf_vector hwf).2, by simpa only [limitsOk] using hlim⟩
  · split at h
    · cases h
    · obtain ⟨x, -, he⟩ := Option.map_eq_some_iff.1 h
      cases he
      simp only [limitsOk, Bool.and_eq_true] at hlim
      exact ⟨Ty.wf_list hwf, hlim.2⟩
  · rename_i fs vs
    split at h
    · next ft x hf hx =>
      cases h
      exact ⟨wfList_getElem? fs (Ty.wf_container hwf).2 key _ hf,
        PathAddress.limitsOkList_getElem? fs (by simpa only [limitsOk] using hlim) key _ hf⟩
    · cases h
  · rename_i hn opts sel x
    obtain ⟨ot, ho, he⟩ := Option.map_eq_some_iff.1 h
    cases he
    exact ⟨wfList_getElem? opts (Ty.wf_union hwf).2 _ _ (optType_some ho).2,
      PathAddress.limitsOkList_getElem? opts (by simpa only [limitsOk] using hlim) _ _
        (optType_some ho).2⟩
  · cases h

theorem seqRepr_child {H : Hash} {et : Ty} {d : Nat} {vs : List Val} {c : Node} {key : Nat}
    (hb : ¬ et.isBasic = true) (h : SeqRepr H et d vs c) (hk : key < vs.length) :
    key < 2 ^ d ∧ ∃ x, getAt c key d = some x ∧ Impl.Repr H et vs[key] x ∧
      ∀ cv' c', Impl.Repr H et cv' c' →
        ∃ c1, setAt H false c key d c' = some c1 ∧ SeqRepr H et d (vs.set key cv') c1 := by
  rw [SeqRepr, if_neg hb] at h
  obtain ⟨ns, hall, hct⟩ := h
  have hkn : key < ns.length := allRel_length hall ▸ hk
  refine ⟨Nat.lt_of_lt_of_le hkn (ct_length_le hct), ns[key], ct_get hct hkn,
    allRel_get hall key hk hkn, fun cv' c' hc => ?_⟩
  obtain ⟨c1, hs, hct'⟩ := ct_set hct hkn c'
  refine ⟨c1, hs, ?_⟩
  rw [SeqRepr, if_neg hb]
  exact ⟨ns.set key c', allRel_set hall key hc, hct'⟩

/-- One level: `childOf` on a representing node and `getChildVal` on the value exist together, and
    the hook (`setChildNode`) does on the node what `setChildVal` does on the value.  The one-level
    statements below are read off this.  `hwf` / `hlim` make the selector and the length read from
    their 32-byte leaves those of the value (for a union with more than `2^256` options the selector
    read is not the selector of the value). -/
theorem child_cases (H : Hash) (t : Ty) (v : Val) (n : Node) (key : Nat)
    (hwf : t.wf = true) (hlim : limitsOk t = true) (h : Impl.Repr H t v n) :
    (childOf H t n key = none ∧ getChildVal t v key = none) ∨
    ∃ ct c cv, childOf H t n key = some (ct, c) ∧ getChildVal t v key = some (ct, cv) ∧
      Impl.Repr H ct cv c ∧
      ∀ cv' c', Impl.Repr H ct cv' c' → ∃ n' v', setChildNode H t n key c' = some n' ∧
        setChildVal t v key cv' = some v' ∧ Impl.Repr H t v' n' := by
  cases t with
  | vector et len =>
    cases v with
    | seq vs =>
      obtain ⟨rfl, h⟩ := repr_vector_iff.1 h
      by_cases hb : et.isBasic = true
      · exact .inl ⟨by unfold childOf; simp only [hb, Bool.true_or, if_true],
          by unfold getChildVal; simp only [hb, if_true]⟩
      by_cases hk : key < vs.length
      · obtain ⟨-, x, hg, hx, hset⟩ := seqRepr_child hb h hk
        refine .inr ⟨et, x, vs[key], ?_, ?_, hx, fun cv' c' hc => ?_⟩
        · unfold childOf; simp only [hb, Bool.false_or, decide_eq_true_eq, if_neg (Nat.not_le_of_lt hk),
            hg, Option.map_some]
        · unfold getChildVal; simp only [if_neg hb, List.getElem?_eq_getElem hk, Option.map_some]
        · obtain ⟨c1, hs, h1⟩ := hset cv' c' hc
          refine ⟨c1, .seq (vs.set key cv'), ?_, if_pos hk,
            repr_vector_iff.2 ⟨List.length_set, h1⟩⟩
          unfold setChildNode; simp only [if_neg (Nat.not_le_of_lt hk), hs]
      · exact .inl ⟨by unfold childOf; simp only [decide_eq_true (Nat.le_of_not_lt hk), Bool.or_true, if_true],
          by unfold getChildVal; simp only [if_neg hb, List.getElem?_eq_none (Nat.le_of_not_lt hk),
            Option.map_none]⟩
    | _ => exact h.elim
  | list et lim =>
    cases v with
    | seq vs =>
      obtain ⟨hlen, c0, rfl, hc0⟩ := repr_list_iff.1 h
      simp only [limitsOk, Bool.and_eq_true, decide_eq_true_eq] at hlim
      have hll := listLength_mixin H c0 vs.length (Nat.lt_of_le_of_lt hlen hlim.1)
      by_cases hb : et.isBasic = true
      · exact .inl ⟨by unfold childOf; simp only [hll, hb, Bool.true_or, if_true],
          by unfold getChildVal; simp only [hb, if_true]⟩
      by_cases hk : key < vs.length
      · obtain ⟨hkd, x, hg, hx, hset⟩ := seqRepr_child hb hc0 hk
        refine .inr ⟨et, x, vs[key], ?_, ?_, hx, fun cv' c' hc => ?_⟩
        · have hg' : getAt (mixInNode c0 vs.length) key (getDepth (chunkLen et lim) + 1) = some x :=
            (getAt_mixin c0 _ hkd).trans hg
          unfold childOf; simp only [hll, hb, Bool.false_or, decide_eq_true_eq,
            if_neg (Nat.not_le_of_lt hk), hg', Option.map_some]
        · unfold getChildVal; simp only [if_neg hb, List.getElem?_eq_getElem hk, Option.map_some]
        · obtain ⟨c1, hs, h1⟩ := hset cv' c' hc
          refine ⟨mixInNode c1 vs.length, .seq (vs.set key cv'), ?_,
            if_pos hk, ?_⟩
          · unfold setChildNode; simp only [hll, if_neg (Nat.not_le_of_lt hk)]
            rw [mixInNode, setAt_mixin H false _ _ _ hkd, hs]
            rfl
          · rw [repr_list_iff, List.length_set]
            exact ⟨hlen, c1, rfl, h1⟩
      · exact .inl ⟨by unfold childOf; simp only [hll, decide_eq_true (Nat.le_of_not_lt hk), Bool.or_true,
            if_true],
          by unfold getChildVal; simp only [if_neg hb, List.getElem?_eq_none (Nat.le_of_not_lt hk),
            Option.map_none]⟩
    | _ => exact h.elim
  | container fs =>
    cases v with
    | seq vs =>
      unfold Impl.Repr at h
      obtain ⟨ns, hf, hct⟩ := h
      cases hfk : fs[key]? with
      | none => exact .inl ⟨by unfold childOf; simp only [hfk], by unfold getChildVal; simp only [hfk]⟩
      | some ft =>
        have hkf : key < fs.length := (List.getElem?_eq_some_iff.1 hfk).1
        have hkv : key < vs.length := (reprFields_length hf).1 ▸ hkf
        have hvk : vs[key]? = some vs[key] := List.getElem?_eq_getElem hkv
        obtain ⟨hkn, hr⟩ := reprFields_get hf key ft vs[key] hfk hvk
        refine .inr ⟨ft, ns[key], vs[key], ?_, ?_, hr, ?_⟩
        · unfold childOf; simp only [hfk, ct_get hct hkn, Option.map_some]
        · unfold getChildVal; simp only [hfk, hvk]
        · intro cv' c' hc
          obtain ⟨n', hs, hct'⟩ := ct_set hct hkn c'
          refine ⟨n', .seq (vs.set key cv'), ?_, if_pos hkv, ?_⟩
          · unfold setChildNode; simp only [if_neg (Nat.not_le_of_lt hkf), hs]
          · unfold Impl.Repr
            exact ⟨ns.set key c', StepRepr.reprFields_set hf key ft cv' c' hfk hc, hct'⟩
    | _ => exact h.elim
  | union hasNone opts =>
    cases v with
    | un sel x =>
      unfold Impl.Repr at h
      obtain ⟨hsel, c0, rfl, h⟩ := h
      have hrl := readLen_lenNode H sel (sel_lt_of_wf hwf hsel)
      cases ho : optType hasNone opts sel with
      | none =>
        exact .inl ⟨by unfold childOf; simp only [getLeft, getRight, hrl, ho, ite_self],
          by unfold getChildVal; simp only [ho, Option.map_none]⟩
      | some ot =>
        obtain ⟨hc, hoi⟩ := optType_some ho
        rw [if_neg hc] at h
        refine .inr ⟨ot, c0, x, ?_, by unfold getChildVal; simp only [ho, Option.map_some],
          PathAddress.reprOpt_get h ot hoi, ?_⟩
        · unfold childOf; simp only [getLeft, getRight, hrl, ho, if_neg (Nat.not_le_of_lt hsel)]
        · intro cv' c' hc'
          refine ⟨.pair c' (lenNode sel), .un sel cv', rfl, rfl, ?_⟩
          unfold Impl.Repr
          refine ⟨hsel, c', rfl, ?_⟩
          rw [if_neg hc]
          exact PathAddress.reprOpt_iff.2 ⟨ot, hoi, hc'⟩
    | _ => exact h.elim
  | _ => exact .inl ⟨rfl, rfl⟩

theorem getChildVal_repr (H : Hash) (t : Ty) (v : Val) (n : Node) (key : Nat) (ct : Ty) (cv : Val)
    (hwf : t.wf = true) (hlim : limitsOk t = true) (h : Impl.Repr H t v n)
    (hg : getChildVal t v key = some (ct, cv)) :
    ∃ c, childOf H t n key = some (ct, c) ∧ Impl.Repr H ct cv c ∧
      ∀ cv' c', Impl.Repr H ct cv' c' → ∃ n' v', setChildNode H t n key c' = some n' ∧
        setChildVal t v key cv' = some v' ∧ Impl.Repr H t v' n' := by
  rcases child_cases H t v n key hwf hlim h with ⟨-, h0⟩ | ⟨ct', c, cv', h1, h2, h3, hset⟩
  · rw [h0] at hg
    cases hg
  · rw [h2] at hg
    cases hg
    exact ⟨c, h1, h3, hset⟩

theorem childOf_repr_get (H : Hash) (t : Ty) (v : Val) (n : Node) (key : Nat) (ct : Ty) (c : Node)
    (hwf : t.wf = true) (hlim : limitsOk t = true) (h : Impl.Repr H t v n)
    (hc : childOf H t n key = some (ct, c)) :
    ∃ cv, getChildVal t v key = some (ct, cv) ∧ Impl.Repr H ct cv c := by
  rcases child_cases H t v n key hwf hlim h with ⟨h0, -⟩ | ⟨ct', c', cv, h1, h2, h3, -⟩
  · rw [h0] at hc
    cases hc
  · rw [h1] at hc
    cases hc
    exact ⟨cv, h2, h3⟩

theorem childOf_repr (H : Hash) (t : Ty) (v : Val) (n : Node) (key : Nat) (ct : Ty) (c : Node)
    (hwf : t.wf = true) (hlim : limitsOk t = true) (h : Impl.Repr H t v n)
    (hc : childOf H t n key = some (ct, c)) :
    ∃ cv, Impl.Repr H ct cv c ∧ setChildVal t v key cv = some v := by
  obtain ⟨cv, hg, hr⟩ := childOf_repr_get H t v n key ct c hwf hlim h hc
  exact ⟨cv, hr, setChildVal_self hg⟩

theorem childOf_wf (H : Hash) (t : Ty) (v : Val) (n : Node) (key : Nat) (ct : Ty) (c : Node)
    (hwf : t.wf = true) (hlim : limitsOk t = true) (h : Impl.Repr H t v n)
    (hc : childOf H t n key = some (ct, c)) : ct.wf = true ∧ limitsOk ct = true := by
  obtain ⟨cv, hg, _⟩ := childOf_repr_get H t v n key ct c hwf hlim h hc
  exact getChildVal_wf hwf hlim hg

theorem setChildNode_isSome (H : Hash) (t : Ty) (v : Val) (n : Node) (key : Nat) (ct : Ty)
    (old c : Node) (cv : Val)
    (hwf : t.wf = true) (hlim : limitsOk t = true) (h : Impl.Repr H t v n)
    (hco : childOf H t n key = some (ct, old)) (hc : Impl.Repr H ct cv c) :
    (setChildNode H t n key c).isSome = true := by
  obtain ⟨ov, hg, _⟩ := childOf_repr_get H t v n key ct old hwf hlim h hco
  obtain ⟨_, _, _, hset⟩ := getChildVal_repr H t v n key ct ov hwf hlim h hg
  obtain ⟨n', v', hs, _, _⟩ := hset cv c hc
  rw [hs]
  rfl

/-- After the hook wrote a node representing `cv` at the child position `key`, the parent's node
    represents the parent's value with the child replaced; hence the parent's root, content (read
    through the view API) and encoding are those of the updated value. -/
theorem setChildNode_observables (H : Hash) (t : Ty) (v : Val) (n : Node) (key : Nat) (ct : Ty)
    (old c : Node) (cv : Val) (n' : Node)
    (hwf : t.wf = true) (hlim : limitsOk t = true) (h : Impl.Repr H t v n)
    (hco : childOf H t n key = some (ct, old)) (hc : Impl.Repr H ct cv c)
    (hs : setChildNode H t n key c = some n') :
    ∃ v', setChildVal t v key cv = some v' ∧
      n'.root H = Spec.htr H t v' ∧
      Impl.readVal H t n' = some v' ∧
      Impl.serTree H t n' = some (Spec.serialize t v', (Spec.serialize t v').length) ∧
      childOf H t n' key = some (ct, c) := by
  obtain ⟨ov, hg, _⟩ := childOf_repr_get H t v n key ct old hwf hlim h hco
  obtain ⟨_, _, _, hset⟩ := getChildVal_repr H t v n key ct ov hwf hlim h hg
  obtain ⟨n'', v', hs', hv', hr'⟩ := hset cv c hc
  rw [hs] at hs'
  cases hs'
  refine ⟨v', hv', repr_root H t v' n' hwf hr', repr_read H t v' n' hwf hlim hr',
    SerTree.repr_ser H t v' n' hwf hlim hr', ?_⟩
  -- a list key below the length is below the limit, as `childOf_setChildNode` asks
  have hk : KeyOk t key := by
    cases t with
    | list et lim =>
      rcases getChildVal_inv hg with ⟨vs, rfl, hx, -⟩ | ⟨sel, rfl, -⟩
      · exact Nat.lt_of_lt_of_le (List.getElem?_eq_some_iff.1 hx).1 (repr_list_iff.1 h).1
      · exact h.elim
    | _ => trivial
  rw [childOf_setChildNode H t n n' key c hk hs (by rw [hco]; rfl), hco]
  rfl


/-- the sub-value of `v : t` reached by following child keys, with its type -/
def subAt : List Nat → Ty → Val → Option (Ty × Val)
  | [], t, v => some (t, v)
  | key :: ks, t, v =>
    match getChildVal t v key with
    | none => none
    | some (ct, cv) => subAt ks ct cv

/-- `v : t` with the sub-value at the key path replaced by `new` (every level rebuilt with
    `setChildVal`, i.e. what the hook chain does level by level) -/
def updateAt : List Nat → Ty → Val → Val → Option Val
  | [], _, _, new => some new
  | key :: ks, t, v, new =>
    match getChildVal t v key with
    | none => none
    | some (ct, cv) =>
      match updateAt ks ct cv new with
      | none => none
      | some cv' => setChildVal t v key cv'

theorem subAt_cons {key : Nat} {ks : List Nat} {t : Ty} {v : Val} {r : Ty × Val} :
    subAt (key :: ks) t v = some r ↔
      ∃ ct cv, getChildVal t v key = some (ct, cv) ∧ subAt ks ct cv = some r := by
  rw [subAt]
  cases getChildVal t v key with
  | none => exact ⟨nofun, fun ⟨_, _, h, _⟩ => nomatch h⟩
  | some x => exact ⟨fun h => ⟨x.1, x.2, rfl, h⟩, fun ⟨_, _, h, h'⟩ => by cases h; exact h'⟩

theorem subAt_snoc (ks : List Nat) (key : Nat) (t : Ty) (v : Val) (pt : Ty) (pv : Val)
    (h : subAt ks t v = some (pt, pv)) : subAt (ks ++ [key]) t v = getChildVal pt pv key := by
  induction ks generalizing t v with
  | nil =>
    cases h
    rw [List.nil_append, subAt]
    cases getChildVal pt pv key with
    | none => rfl
    | some x => rfl
  | cons k ks ih =>
    obtain ⟨ct, cv, hg, h⟩ := subAt_cons.1 h
    simp only [List.cons_append, subAt, hg]
    exact ih ct cv h

theorem updateAt_snoc (ks : List Nat) (key : Nat) (t : Ty) (v : Val) (pt : Ty) (pv pv' : Val)
    (ct : Ty) (cv new : Val)
    (h : subAt ks t v = some (pt, pv)) (hg : getChildVal pt pv key = some (ct, cv))
    (hs : setChildVal pt pv key new = some pv') :
    updateAt (ks ++ [key]) t v new = updateAt ks t v pv' := by
  induction ks generalizing t v with
  | nil =>
    cases h
    simp only [List.nil_append, updateAt, hg, hs]
  | cons k ks ih =>
    obtain ⟨ct1, cv1, hg1, h⟩ := subAt_cons.1 h
    simp only [List.cons_append, updateAt, hg1, ih ct1 cv1 h]

theorem subAt_updateAt (ks : List Nat) (t : Ty) (v v' : Val) (pt : Ty) (pv new : Val)
    (h : subAt ks t v = some (pt, pv)) (hu : updateAt ks t v new = some v') :
    subAt ks t v' = some (pt, new) := by
  induction ks generalizing t v v' with
  | nil =>
    cases h
    cases hu
    rfl
  | cons k ks ih =>
    obtain ⟨ct, cv, hg, h⟩ := subAt_cons.1 h
    simp only [updateAt, hg] at hu
    cases hu1 : updateAt ks ct cv new with
    | none =>
      rw [hu1] at hu
      cases hu
    | some cv' =>
      simp only [hu1] at hu
      simp only [subAt, getChildVal_setChildVal hg hu]
      exact ih ct cv cv' h hu1

theorem updateAt_isSome (ks : List Nat) (t : Ty) (v : Val) (pt : Ty) (pv new : Val)
    (h : subAt ks t v = some (pt, pv)) : ∃ v', updateAt ks t v new = some v' := by
  induction ks generalizing t v with
  | nil => exact ⟨new, rfl⟩
  | cons k ks ih =>
    obtain ⟨ct, cv, hg, h⟩ := subAt_cons.1 h
    obtain ⟨cv', hcv'⟩ := ih ct cv h
    simp only [updateAt, hg, hcv']
    exact setChildVal_isSome hg cv'

/-- View `r` (the object `o`) is coherent w.r.t. the valuation `val` (reference ↦ value): its type
    is well-formed with limits `< 2^256`, its backing represents `val r`, and — if it has a hook
    `(p, key)` — its value is the sub-value of the parent's value at `key`, with its type. -/
def CoherentAt (H : Hash) (s : Store) (val : Nat → Val) (r : Nat) (o : VObj) : Prop :=
  o.ty.wf = true ∧ limitsOk o.ty = true ∧ Impl.Repr H o.ty (val r) o.backing ∧
  ∀ p key, o.hook = some (p, key) →
    ∃ po, s[p]? = some po ∧ getChildVal po.ty (val p) key = some (o.ty, val r)

def CoherentOn (H : Hash) (s : Store) (val : Nat → Val) (P : Nat → Prop) : Prop :=
  ∀ r o, P r → s[r]? = some o → CoherentAt H s val r o

/-- `Coherent s` (with the witnessing valuation): hooks point backwards, every view's backing
    represents some value and each child's value is its parent's sub-value at the hook key. -/
def Coherent (H : Hash) (s : Store) (val : Nat → Val) : Prop :=
  Valid s ∧ CoherentOn H s val (fun _ => True)

theorem Coherent.on {H : Hash} {s : Store} {val : Nat → Val} (h : Coherent H s val)
    (P : Nat → Prop) : CoherentOn H s val P :=
  fun r o _ hr => h.2 r o trivial hr

theorem CoherentAt.read {H : Hash} {s : Store} {val : Nat → Val} {r : Nat} {o : VObj}
    (h : CoherentAt H s val r o) : readVal H o.ty o.backing = some (val r) :=
  repr_read H o.ty (val r) o.backing h.1 h.2.1 h.2.2.1

theorem CoherentAt.child {H : Hash} {s : Store} {val : Nat → Val} {r : Nat} {o : VObj}
    (h : CoherentAt H s val r o) (hp : ∀ p po, s[p]? = some po → CoherentAt H s val p po)
    {p key : Nat} (hh : o.hook = some (p, key)) :
    ∃ po c, s[p]? = some po ∧ childOf H po.ty po.backing key = some (o.ty, c) ∧
      Impl.Repr H o.ty (val r) c := by
  obtain ⟨po, hpo, hg⟩ := h.2.2.2 p key hh
  have hcp := hp p po hpo
  obtain ⟨c, hc, hrc, -⟩ := getChildVal_repr H po.ty (val p) po.backing key o.ty (val r)
    hcp.1 hcp.2.1 hcp.2.2.1 hg
  exact ⟨po, c, hpo, hc, hrc⟩

/-- the views on the hook chain of `r`, each with the key path leading from it down to `r` -/
def pathsTo (s : Store) : Nat → Nat → List (Nat × List Nat)
  | 0, _ => []
  | fuel+1, r =>
    match hookOf s r with
    | none => [(r, [])]
    | some (p, key) => (r, []) :: (pathsTo s fuel p).map fun x => (x.1, x.2 ++ [key])

theorem mem_pathsTo_succ {s : Store} {fuel r : Nat} {x : Nat × List Nat} :
    x ∈ pathsTo s (fuel + 1) r ↔
      x = (r, []) ∨ ∃ p key, hookOf s r = some (p, key) ∧
        ∃ y ∈ pathsTo s fuel p, (y.1, y.2 ++ [key]) = x := by
  rw [pathsTo]
  cases hookOf s r with
  | none =>
    simp only [List.mem_cons, List.not_mem_nil, or_false, reduceCtorEq, false_and, exists_const]
  | some pk =>
    simp only [List.mem_cons, List.mem_map]
    exact or_congr_right ⟨fun h => ⟨pk.1, pk.2, rfl, h⟩, fun ⟨_, _, e, h⟩ => by cases e; exact h⟩

theorem pathsTo_fst (s : Store) (fuel r : Nat) :
    (pathsTo s fuel r).map (·.1) = chainAux s fuel r := by
  induction fuel generalizing r with
  | zero => rfl
  | succ f ih =>
    simp only [pathsTo, chainAux]
    cases hookOf s r with
    | none => rfl
    | some pk =>
      obtain ⟨p, key⟩ := pk
      simp only [List.map_cons, List.map_map]
      rw [← ih p]
      congr 1

theorem getElem?_of_map_eq {α β : Type} {f : α → β} {s s' : List α} {q : Nat} {o : α}
    (h : (s'[q]?).map f = (s[q]?).map f) (ho : s[q]? = some o) :
    ∃ o', s'[q]? = some o' ∧ f o' = f o := by
  rw [ho] at h
  exact Option.map_eq_some_iff.1 h

/-- what the hook chain establishes for one view `c` (object `oc` before) of the chain:
    the view keeps type and hook, its new backing represents `val' c`, and — if it has a hook
    `(p, key)` — the new value of the parent is the parent's old value with the child at `key`
    replaced by the new value of `c`. -/
def LevelOk (H : Hash) (s s' : Store) (val val' : Nat → Val) (c : Nat) (oc : VObj) : Prop :=
  ∃ oc', s'[c]? = some oc' ∧ oc'.ty = oc.ty ∧ oc'.hook = oc.hook ∧
    Impl.Repr H oc.ty (val' c) oc'.backing ∧
    ∀ p key, oc.hook = some (p, key) → ∃ po, s[p]? = some po ∧
      getChildVal po.ty (val p) key = some (oc.ty, val c) ∧
      setChildVal po.ty (val p) key (val' c) = some (val' p)

/-- The invariant of `set_backing` at value level: in a store that is coherent along the chain, no
    hook of the chain raises, and every level of the chain is as `LevelOk` says.  The induction runs
    on the unchanged store: the write to `r` commutes to the end (`setBacking_succ_hook`). -/
theorem setBacking_levels (H : Hash) (fuel : Nat) (s : Store) (r : Nat) (n : Node)
    (val : Nat → Val) (new : Val) (o : VObj) (hf : r < fuel)
    (hv : Valid s) (hco : CoherentOn H s val (· ∈ chainAux s fuel r)) (hr : s[r]? = some o)
    (hn : Impl.Repr H o.ty new n) :
    ∃ (s' : Store) (val' : Nat → Val), setBacking H fuel s r n = some s' ∧ val' r = new ∧
      (∀ q, q ∉ chainAux s fuel r → val' q = val q) ∧
      ∀ c ∈ chainAux s fuel r, ∀ oc, s[c]? = some oc → LevelOk H s s' val val' c oc := by
  induction fuel generalizing r n new o with
  | zero => cases hf
  | succ f ih =>
    cases hk : o.hook with
    | none =>
      have hchain : chainAux s (f + 1) r = [r] := by
        simp only [chainAux, hookOf_of_get hr, hk]
      rw [hchain]
      refine ⟨_, fun q => if q = r then new else val q, setBacking_succ_none H f n hr hk,
        if_pos rfl, fun q hq => if_neg (List.ne_of_not_mem_cons hq), ?_⟩
      intro c hc oc hoc
      cases List.mem_singleton.1 hc
      cases hr.symm.trans hoc
      refine ⟨{ o with backing := n }, List.getElem?_set_self (getElem?_lt_length hr), rfl, rfl,
        by simpa only [if_pos] using hn, ?_⟩
      exact fun p key hpk => nomatch hk.symm.trans hpk
    | some pk =>
      obtain ⟨p0, key0⟩ := pk
      have hlt0 : p0 < r := (hv r o hr p0 key0 hk).1
      have hf' : p0 < f := Nat.lt_of_lt_of_le hlt0 (Nat.le_of_lt_succ hf)
      have hchain : chainAux s (f + 1) r = r :: chainAux s f p0 := by
        simp only [chainAux, hookOf_of_get hr, hk]
      rw [hchain] at hco ⊢
      obtain ⟨-, -, -, w4⟩ := hco r o List.mem_cons_self hr
      obtain ⟨po0, hp0, hg0⟩ := w4 p0 key0 hk
      have hco' : CoherentOn H s val (· ∈ chainAux s f p0) :=
        fun q oq hq => hco q oq (List.mem_cons_of_mem _ hq)
      obtain ⟨f', rfl⟩ := Nat.exists_eq_add_one_of_ne_zero (Nat.ne_zero_of_lt hf')
      obtain ⟨v1, v2, v3, -⟩ := hco' p0 po0 mem_chainAux_self hp0
      obtain ⟨_, -, -, hset⟩ := getChildVal_repr H po0.ty (val p0) po0.backing key0 o.ty
        (val r) v1 v2 v3 hg0
      obtain ⟨pn, pv', hsc, hsv, hrp⟩ := hset new n hn
      obtain ⟨s1, val1, hrec, hv0, hout, hlev⟩ := ih p0 pn pv' po0 hf' hco' hp0 hrp
      have hlen := (setBacking_frame_aux H _ s p0 pn s1 hrec).1
      refine ⟨s1.set r { o with backing := n }, fun q => if q = r then new else val1 q, ?_,
        if_pos rfl, ?_, ?_⟩
      · rw [setBacking_succ_hook H _ hv hr hk hp0 hsc, hrec]
        rfl
      · intro q hq
        have hq1 : ¬ q = r := fun e => hq (e ▸ List.mem_cons_self)
        simp only [if_neg hq1]
        exact hout q fun hm => hq (List.mem_cons_of_mem _ hm)
      · intro c hc oc hoc
        rcases List.mem_cons.1 hc with rfl | hc
        · cases hr.symm.trans hoc
          refine ⟨{ o with backing := n },
            List.getElem?_set_self (hlen ▸ getElem?_lt_length hr), rfl, rfl,
            by simpa only [if_pos] using hn, ?_⟩
          intro p key hpk
          cases hk.symm.trans hpk
          refine ⟨po0, hp0, hg0, ?_⟩
          simpa only [if_pos, if_neg (Nat.ne_of_lt hlt0), hv0] using hsv
        · have hcr : c < r := Nat.lt_of_le_of_lt (chainAux_le hv _ p0 c hc) hlt0
          have hcne : ¬ c = r := Nat.ne_of_lt hcr
          obtain ⟨oc', h1, h2, h3, h4, h5⟩ := hlev c hc oc hoc
          refine ⟨oc', by rw [List.getElem?_set_ne (Ne.symm hcne)]; exact h1, h2, h3,
            by simpa only [if_neg hcne] using h4, ?_⟩
          intro p key hpk
          obtain ⟨po, hpo, hg, hsv'⟩ := h5 p key hpk
          have hpne : ¬ p = r := Nat.ne_of_lt (Nat.lt_trans (hv c oc hoc p key hpk).1 hcr)
          exact ⟨po, hpo, hg, by simpa only [if_neg hcne, if_neg hpne] using hsv'⟩

/-- from the level-by-level statement to the closed form along key paths -/
theorem levels_closed (H : Hash) (s s' : Store) (val val' : Nat → Val) (fuel : Nat) (r : Nat)
    (o : VObj) (hr : s[r]? = some o)
    (hlev : ∀ c ∈ chainAux s fuel r, ∀ oc, s[c]? = some oc → LevelOk H s s' val val' c oc) :
    ∀ x ∈ pathsTo s fuel r, ∀ oc, s[x.1]? = some oc →
      subAt x.2 oc.ty (val x.1) = some (o.ty, val r) ∧
      updateAt x.2 oc.ty (val x.1) (val' r) = some (val' x.1) := by
  induction fuel generalizing r o with
  | zero => exact fun x hx => nomatch hx
  | succ f ih =>
    intro x hx oc hoc
    rcases mem_pathsTo_succ.1 hx with rfl | ⟨p, key, hh, y, hy, rfl⟩
    · cases hr.symm.trans hoc
      exact ⟨rfl, rfl⟩
    · have hk : o.hook = some (p, key) := by rw [← hookOf_of_get hr, hh]
      obtain ⟨_, _, _, _, _, hup⟩ := hlev r mem_chainAux_self o hr
      obtain ⟨po, hpo, hg, hsv⟩ := hup p key hk
      obtain ⟨hsub, hupd⟩ := ih p po hpo
        (fun c hc => hlev c (mem_chainAux_succ.2 (.inr ⟨p, key, hh, hc⟩))) y hy oc hoc
      constructor
      · rw [subAt_snoc _ key _ _ _ _ hsub, hg]
      · rw [updateAt_snoc _ key _ _ _ _ _ _ _ _ hsub hg hsv]
        exact hupd

theorem mutate_levels (H : Hash) (s : Store) (r : Nat) (op : Op) (s' : Store)
    (val : Nat → Val) (hv : Valid s) (hco : CoherentOn H s val (· ∈ chain s r))
    (h : step H s (.mutate r op) = some s') :
    ∃ (o : VObj) (new : Val) (val' : Nat → Val),
      s[r]? = some o ∧ applyOp o.ty (val r) op = some new ∧ val' r = new ∧
      (∀ q, q ∉ chain s r → val' q = val q) ∧
      ∀ c ∈ chain s r, ∀ oc, s[c]? = some oc → LevelOk H s s' val val' c oc := by
  obtain ⟨o, n, hr, ha, h⟩ := step_mutate_eq.1 h
  obtain ⟨w1, w2, w3, _⟩ := hco r o (mem_chain_self s r) hr
  obtain ⟨new, hop, hn⟩ := StepRepr.step_repr H o.ty w1 w2 (val r) o.backing w3 op n ha
  obtain ⟨s'', val', h', hnew, hout, hlev⟩ :=
    setBacking_levels H (r + 1) s r n val new o (Nat.lt_succ_self r) hv hco hr hn
  rw [h] at h'
  cases h'
  exact ⟨o, new, val', hr, hop, hnew, hout, hlev⟩

/-- C05, content clause, for a mutation through a held view `r` of a store that is valid and
    coherent along the hook chain of `r` (in particular a `Coherent` store): the operation succeeded
    at value level, every view on the chain has its old value with `new` put at the key path down
    to `r` (`updateAt`), the views off the chain keep their value (and, `mutate_frame`, their node),
    and the new store is coherent along the chain w.r.t. the new valuation. -/
theorem mutate_chain_content (H : Hash) (s : Store) (r : Nat) (op : Op) (s' : Store)
    (val : Nat → Val) (hv : Valid s) (hco : CoherentOn H s val (· ∈ chain s r))
    (h : step H s (.mutate r op) = some s') :
    ∃ (o : VObj) (new : Val) (val' : Nat → Val),
      s[r]? = some o ∧ applyOp o.ty (val r) op = some new ∧ val' r = new ∧
      (∀ q, q ∉ chain s r → val' q = val q) ∧
      (∀ x ∈ pathsTo s (r + 1) r, ∀ oc, s[x.1]? = some oc →
        subAt x.2 oc.ty (val x.1) = some (o.ty, val r) ∧
        updateAt x.2 oc.ty (val x.1) new = some (val' x.1)) ∧
      CoherentOn H s' val' (· ∈ chain s r) := by
  obtain ⟨o, new, val', hr, hop, hnew, hout, hlev⟩ := mutate_levels H s r op s' val hv hco h
  refine ⟨o, new, val', hr, hop, hnew, hout,
    hnew ▸ levels_closed H s s' val val' (r + 1) r o hr hlev, ?_⟩
  -- types and hooks are kept, so every view of `s'` on the chain has its level in `s`
  obtain ⟨-, -, hty, -⟩ := step_mutate_shape H s r op s' h
  intro c oc' hc hoc'
  obtain ⟨oc, hoc, -⟩ := getElem?_of_map_eq (hty c).symm hoc'
  obtain ⟨oc'', h1, h2, h3, h4, h5⟩ := hlev c hc oc hoc
  rw [hoc'] at h1
  cases h1
  obtain ⟨w1, w2, -, -⟩ := hco c oc hc hoc
  rw [← h2] at w1 w2 h4
  refine ⟨w1, w2, h4, ?_⟩
  intro p key hpk
  rw [h3] at hpk
  obtain ⟨po, hpo, hg, hsv⟩ := h5 p key hpk
  obtain ⟨po', hpo', htp⟩ := getElem?_of_map_eq (hty p) hpo
  exact ⟨po', hpo', by rw [htp, h2]; exact getChildVal_setChildVal hg hsv⟩

/-- progress: in a store that is valid and coherent along the chain, a mutation that is allowed at
    value level goes through — neither the view operation nor any hook on the way up raises -/
theorem mutate_succeeds (H : Hash) (s : Store) (r : Nat) (op : Op) (val : Nat → Val) (o : VObj)
    (new : Val) (hv : Valid s) (hco : CoherentOn H s val (· ∈ chain s r)) (hr : s[r]? = some o)
    (hop : applyOp o.ty (val r) op = some new) : ∃ s', step H s (.mutate r op) = some s' := by
  obtain ⟨w1, w2, w3, _⟩ := hco r o (mem_chain_self s r) hr
  obtain ⟨n, ha, hn⟩ := StepRepr.step_ok H o.ty w1 w2 (val r) o.backing w3 op new hop
  obtain ⟨s', _, h, _⟩ := setBacking_levels H (r + 1) s r n val new o (Nat.lt_succ_self r) hv hco hr hn
  exact ⟨s', step_mutate_eq.2 ⟨o, n, hr, ha, h⟩⟩


theorem coherent_nil (H : Hash) (val : Nat → Val) : Coherent H [] val :=
  ⟨fun _ _ hr => (nomatch hr), fun _ _ _ hr => nomatch hr⟩

theorem coherent_snoc {H : Hash} {s : Store} {val : Nat → Val} (hc : Coherent H s val)
    (x : VObj) (xv : Val) (hwf : x.ty.wf = true) (hlim : limitsOk x.ty = true)
    (hr : Impl.Repr H x.ty xv x.backing)
    (hh : ∀ p key, x.hook = some (p, key) →
      ∃ po, s[p]? = some po ∧ getChildVal po.ty (val p) key = some (x.ty, xv)) :
    Coherent H (s ++ [x]) (fun q => if q = s.length then xv else val q) := by
  obtain ⟨hv, hco⟩ := hc
  refine ⟨hv.snoc fun p k hpk => ?_, ?_⟩
  · obtain ⟨po, hpo, -⟩ := hh p k hpk
    exact getElem?_lt_length hpo
  · intro r o _ hro
    rcases getElem?_snoc_cases hro with ⟨hlt, hro⟩ | ⟨rfl, rfl⟩
    · obtain ⟨h1, h2, h3, h4⟩ := hco r o trivial hro
      have hne : ¬ r = s.length := Nat.ne_of_lt hlt
      refine ⟨h1, h2, by simpa only [if_neg hne] using h3, ?_⟩
      intro p key hpk
      obtain ⟨po, hpo, hg⟩ := h4 p key hpk
      have hps : p < s.length := getElem?_lt_length hpo
      refine ⟨po, by rw [List.getElem?_append_left hps]; exact hpo, ?_⟩
      simpa only [if_neg hne, if_neg (Nat.ne_of_lt hps)] using hg
    · refine ⟨hwf, hlim, by simpa only [if_pos] using hr, ?_⟩
      intro p key hpk
      obtain ⟨po, hpo, hg⟩ := hh p key hpk
      have hps := getElem?_lt_length hpo
      refine ⟨po, by rw [List.getElem?_append_left hps]; exact hpo, ?_⟩
      simpa only [if_pos, if_neg (Nat.ne_of_lt hps)] using hg

theorem coherent_singleton (H : Hash) (t : Ty) (v : Val) (n : Node) (hwf : t.wf = true)
    (hlim : limitsOk t = true) (hr : Impl.Repr H t v n) :
    Coherent H [⟨t, n, none⟩] (fun _ => v) := by
  have := coherent_snoc (coherent_nil H (fun _ => v)) ⟨t, n, none⟩ v hwf hlim hr
    (by intro p key hpk; cases hpk)
  simpa using this

/-- taking a child view keeps the store coherent: the new view's value is the sub-value -/
theorem step_child_coherent (H : Hash) (s : Store) (r key : Nat) (s1 : Store) (val : Nat → Val)
    (hc : Coherent H s val) (h : step H s (.child r key) = some s1) :
    ∃ o ct cn cv, s[r]? = some o ∧ s1 = s ++ [⟨ct, cn, some (r, key)⟩] ∧
      getChildVal o.ty (val r) key = some (ct, cv) ∧
      Coherent H s1 (fun q => if q = s.length then cv else val q) := by
  obtain ⟨o, ct, cn, hr, hch, rfl⟩ := step_child_eq H s r key s1 h
  obtain ⟨w1, w2, w3, _⟩ := hc.2 r o trivial hr
  obtain ⟨cv, hg, hrc⟩ := childOf_repr_get H o.ty (val r) o.backing key ct cn w1 w2 w3 hch
  obtain ⟨c1, c2⟩ := getChildVal_wf w1 w2 hg
  refine ⟨o, ct, cn, cv, hr, rfl, hg, coherent_snoc hc ⟨ct, cn, some (r, key)⟩ cv c1 c2 hrc ?_⟩
  rintro p k ⟨⟩
  exact ⟨o, hr, hg⟩

/-- copying a view keeps the store coherent: the copy has the value of the original -/
theorem step_copy_coherent (H : Hash) (s : Store) (r : Nat) (s1 : Store) (val : Nat → Val)
    (hc : Coherent H s val) (h : step H s (.copy r) = some s1) :
    Coherent H s1 (fun q => if q = s.length then val r else val q) := by
  obtain ⟨o, hr, rfl⟩ := step_copy_eq H s r s1 h
  obtain ⟨w1, w2, w3, _⟩ := hc.2 r o trivial hr
  exact coherent_snoc hc ⟨o.ty, o.backing, none⟩ (val r) w1 w2 w3 (by intro p key hpk; cases hpk)

theorem coherent_observables (H : Hash) (s : Store) (val : Nat → Val) (hc : Coherent H s val)
    (r : Nat) (o : VObj) (hr : s[r]? = some o) :
    readVal H o.ty o.backing = some (val r) ∧ o.backing.root H = Spec.htr H o.ty (val r) ∧
    serTree H o.ty o.backing
      = some (Spec.serialize o.ty (val r), (Spec.serialize o.ty (val r)).length) := by
  obtain ⟨w1, w2, w3, _⟩ := hc.2 r o trivial hr
  exact ⟨repr_read H _ _ _ w1 w2 w3, repr_root H _ _ _ w1 w3, SerTree.repr_ser H _ _ _ w1 w2 w3⟩

/-- A view `c` hooked at `key` to a view `p`: after a mutation through `c` the parent
    represents its old value with the child replaced by the child's new value. -/
theorem mutate_parent_content (H : Hash) (s : Store) (c p key : Nat) (op : Op) (s' : Store)
    (val : Nat → Val) (oc po : VObj) (hc : Coherent H s val)
    (hoc : s[c]? = some oc) (hhook : oc.hook = some (p, key)) (hpo : s[p]? = some po)
    (h : step H s (.mutate c op) = some s') :
    ∃ new pv' oc' po', applyOp oc.ty (val c) op = some new ∧
      setChildVal po.ty (val p) key new = some pv' ∧
      s'[c]? = some oc' ∧ s'[p]? = some po' ∧ oc'.ty = oc.ty ∧ po'.ty = po.ty ∧
      Impl.Repr H oc.ty new oc'.backing ∧ Impl.Repr H po.ty pv' po'.backing ∧
      getChildVal po.ty pv' key = some (oc.ty, new) := by
  obtain ⟨o, new, val', hr, hop, hnew, -, hlev⟩ :=
    mutate_levels H s c op s' val hc.1 (hc.on _) h
  rw [hoc] at hr
  cases hr
  obtain ⟨oc', hoc', t1, -, r1, hup⟩ := hlev c mem_chainAux_self oc hoc
  obtain ⟨po1, hpo1, hg1, hsv⟩ := hup p key hhook
  rw [hpo] at hpo1
  cases hpo1
  obtain ⟨f, rfl⟩ := Nat.exists_eq_add_one_of_ne_zero
    (Nat.ne_zero_of_lt (hc.1 c oc hoc p key hhook).1)
  obtain ⟨po', hpo', t2, -, r2, -⟩ := hlev p
    (mem_chainAux_succ.2 (.inr ⟨p, key, by rw [hookOf_of_get hoc, hhook], mem_chainAux_self⟩)) po hpo
  rw [hnew] at r1 hsv
  exact ⟨new, val' p, oc', po', hop, hsv, hoc', hpo', t1, t2, r1, r2,
    getChildVal_setChildVal hg1 hsv⟩

/-- Hold a root view over a tree representing `v`, take its child view at `key`, mutate through the
    child: the ROOT view then reads (and hashes to) `v` with the child at `key` replaced by the
    result of the operation on the child value. -/
theorem child_then_mutate (H : Hash) (t : Ty) (v : Val) (n : Node) (hwf : t.wf = true)
    (hlim : limitsOk t = true) (hr : Impl.Repr H t v n) (key : Nat) (op : Op) (s1 s2 : Store)
    (h1 : step H [⟨t, n, none⟩] (.child 0 key) = some s1)
    (h2 : step H s1 (.mutate 1 op) = some s2) :
    ∃ ct cv new v' o', getChildVal t v key = some (ct, cv) ∧ applyOp ct cv op = some new ∧
      setChildVal t v key new = some v' ∧ s2[0]? = some o' ∧ o'.ty = t ∧
      readVal H t o'.backing = some v' ∧ o'.backing.root H = Spec.htr H t v' := by
  obtain ⟨o, ct, cn, cv, ho, rfl, hg, hc1⟩ :=
    step_child_coherent H _ 0 key s1 _ (coherent_singleton H t v n hwf hlim hr) h1
  cases ho
  obtain ⟨new, pv', oc', po', hop, hsv, _, hpo', _, t2, _, r2, _⟩ :=
    mutate_parent_content H _ 1 0 key op s2 _ ⟨ct, cn, some (0, key)⟩ ⟨t, n, none⟩ hc1
      rfl rfl rfl h2
  simp only [List.length_singleton, if_pos, if_neg Nat.zero_ne_one] at hop hsv
  exact ⟨ct, cv, new, pv', po', hg, hop, hsv, hpo', t2, repr_read H t pv' _ hwf hlim r2,
    repr_root H t pv' _ hwf r2⟩

/-- non-vacuity of `child_then_mutate`: whenever the value has a child at `key` and the operation
    is allowed on the child value, both steps go through -/
theorem child_then_mutate_succeeds (H : Hash) (t : Ty) (v : Val) (n : Node) (hwf : t.wf = true)
    (hlim : limitsOk t = true) (hr : Impl.Repr H t v n) (key : Nat) (op : Op) (ct : Ty)
    (cv new : Val) (hg : getChildVal t v key = some (ct, cv)) (hop : applyOp ct cv op = some new) :
    ∃ s1 s2, step H [⟨t, n, none⟩] (.child 0 key) = some s1 ∧
      step H s1 (.mutate 1 op) = some s2 := by
  obtain ⟨c, hch, hrc, -⟩ := getChildVal_repr H t v n key ct cv hwf hlim hr hg
  obtain ⟨c1, c2⟩ := getChildVal_wf hwf hlim hg
  have hc1 := coherent_snoc (coherent_singleton H t v n hwf hlim hr) ⟨ct, c, some (0, key)⟩ cv
    c1 c2 hrc (by rintro p k ⟨⟩; exact ⟨_, rfl, hg⟩)
  obtain ⟨s2, h2⟩ := mutate_succeeds H _ 1 op _ ⟨ct, c, some (0, key)⟩ new hc1.1 (hc1.on _)
    rfl hop
  exact ⟨_, s2, by simp [step, hch], h2⟩

/-- … and the hypotheses are satisfiable: a container holding a list, an append through the held
    view of the list (any hash) -/
example (H : Hash) : ∃ n s1 s2,
    Impl.Repr H (.container [.list (.uint 1) 64, .uint 1]) (.seq [.seq [.num 7], .num 3]) n ∧
    step H [⟨.container [.list (.uint 1) 64, .uint 1], n, none⟩] (.child 0 0) = some s1 ∧
    step H s1 (.mutate 1 (.append (.num 9))) = some s2 := by
  have hwf : (Ty.container [.list (.uint 1) 64, .uint 1]).wf = true := by decide
  have hlim : limitsOk (.container [.list (.uint 1) 64, .uint 1]) = true := by
    simp [limitsOk, limitsOkList]
  obtain ⟨n, _, hr⟩ := ConstructRoot.repr_exists H (.container [.list (.uint 1) 64, .uint 1])
    (.seq [.seq [.num 7], .num 3]) hwf (by decide)
  obtain ⟨s1, s2, h1, h2⟩ := child_then_mutate_succeeds H _ _ n hwf hlim hr 0
    (.append (.num 9)) (.list (.uint 1) 64) (.seq [.num 7]) (.seq [.num 7, .num 9])
    rfl rfl
  exact ⟨n, s1, s2, hr, h1, h2⟩


end Rmk.StoreContent
