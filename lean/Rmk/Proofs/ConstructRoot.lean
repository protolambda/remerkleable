/-
C01 — the trees built by the constructors (`Impl.construct`) have the SSZ-spec hash tree root
(`Spec.htr`): the constructor tree represents the value (`ReprBasics.construct_repr`), and whatever
represents a value has its root (`ReprBasics.repr_root`).  The constructors succeed on every
well-typed value of a well-formed type (`construct_isSome`) and only on well-typed ones
(`construct_some_wt`), so every well-typed value is represented (`repr_exists`).
Generic in the pair hash `H`.
-/
import Rmk.Proofs.ReprBasics
namespace Rmk.ConstructRoot
open Rmk Rmk.Impl Rmk.Spec

theorem fill_isSome (H : Hash) (nodes : List Node) (k : Nat) (h : nodes.length ≤ k) :
    (fillToContents H nodes (getDepth k)).isSome = true :=
  (fillToContents_isSome_iff H nodes _).2 (Nat.le_trans h (two_pow_getDepth k))

theorem chunkLen_mono (et : Ty) {a b : Nat} (h : a ≤ b) : chunkLen et a ≤ chunkLen et b := by
  unfold chunkLen
  split
  · exact Nat.div_le_div_right (Nat.sub_le_sub_right (Nat.add_le_add_right h _) _)
  · exact h

theorem constructFields_length (H : Hash) (fs : List Ty) (vs : List Val) (ns : List Node)
    (h : constructFields H fs vs = some ns) : ns.length = fs.length := by
  induction fs generalizing vs ns with
  | nil =>
    rw [(ReprBasics.constructFields_nil_some H h).2]
    rfl
  | cons t ts ih =>
    obtain ⟨_, vs, _, ms, rfl, rfl, _, h2⟩ := ReprBasics.constructFields_cons_some H h
    rw [List.length_cons, List.length_cons, ih vs ms h2]

variable (H : Hash)

theorem bits_fill_isSome (bs : List Bool) (k : Nat) (h : bs.length ≤ k) :
    (fillToContents H ((packBits bs).map .leaf) (getDepth ((k + 255) / 256))).isSome = true := by
  apply fill_isSome
  rw [List.length_map, ReprBasics.packBits_length, cdiv_8_cdiv_32]
  exact Nat.div_le_div_right (Nat.add_le_add_right h _)

theorem bytes_fill_isSome (bs : List UInt8) (k : Nat) (h : bs.length ≤ k) :
    (fillToContents H ((packBytes bs).map .leaf) (getDepth ((k + 31) / 32))).isSome = true := by
  apply fill_isSome
  rw [List.length_map, packBytes_length]
  exact Nat.div_le_div_right (Nat.add_le_add_right h _)

/-- the elements of a sequence of at most `lim` items being constructible, so are its contents:
    the bottom nodes fit into `chunkLen et lim` chunks -/
theorem seq_fill_isSome (et : Ty) (vs : List Val) (lim : Nat) (hwf : et.wf = true)
    (hle : vs.length ≤ lim) (ih : ∀ w ∈ vs, (construct H et w).isSome = true) :
    ∃ ns, allSome (vs.map fun v => construct H et v) = some ns ∧
      (fillToContents H
        (if et.isBasic then (packInts et.basicSize (vs.map numOf)).map .leaf else ns)
        (getDepth (chunkLen et lim))).isSome = true := by
  obtain ⟨ns, hns⟩ := Option.isSome_iff_exists.1 (allSome_map_isSome (construct H et) vs ih)
  have hlen := allRel_length (allRel_of_allSome _ vs ns hns fun _ _ _ h => h)
  refine ⟨ns, hns, fill_isSome H _ _ (Nat.le_trans (Nat.le_of_eq ?_) (chunkLen_mono et hle))⟩
  split
  · next hb => rw [List.length_map, ReprBasics.packInts_length' et hwf hb, List.length_map]
  · next hb => rw [← hlen, ReprBasics.chunkLen_nonbasic et _ hb]

mutual
theorem construct_isSome (t : Ty) (v : Val) (hwf : t.wf = true) (hwt : WT t v = true) :
    (Impl.construct H t v).isSome = true := by
  -- `WT` discharges each guard of `construct`, and the fill succeeds because the chunks fit the depth (`*_fill_isSome`)
  cases t with
  | uint nb =>
    obtain ⟨x, rfl, hx⟩ := WT_uint_inv hwt
    unfold construct; rw [if_pos hx]
    rfl
  | bool =>
    obtain ⟨x, rfl, hx⟩ := WT_bool_inv hwt
    unfold construct; rw [if_pos hx]
    rfl
  | bitvector len =>
    obtain ⟨bs, rfl, rfl⟩ := WT_bitvector_inv hwt
    unfold construct; simp only [bne_self_eq_false, Bool.false_eq_true, if_false]
    exact bits_fill_isSome H bs _ (Nat.le_refl _)
  | bitlist lim =>
    obtain ⟨bs, rfl, hlen⟩ := WT_bitlist_inv hwt
    unfold construct; rw [if_neg (Nat.not_lt.2 hlen)]
    split
    · rfl
    · rw [Option.isSome_map]
      exact bits_fill_isSome H bs lim hlen
  | bytevector len =>
    obtain ⟨bs, rfl, rfl⟩ := WT_bytevector_inv hwt
    unfold construct; simp only [bne_self_eq_false, Bool.false_eq_true, if_false]
    split
    · rfl
    · exact bytes_fill_isSome H bs _ (Nat.le_refl _)
  | bytelist lim =>
    obtain ⟨bs, rfl, hlen⟩ := WT_bytelist_inv hwt
    unfold construct; rw [if_neg (Nat.not_lt.2 hlen), Option.isSome_map]
    exact bytes_fill_isSome H bs lim hlen
  | vector et len =>
    obtain ⟨vs, rfl, rfl, hall⟩ := WT_vector_inv hwt
    have hwf := Ty.wf_vector hwf
    obtain ⟨ns, hns, hfill⟩ := seq_fill_isSome H et vs _ hwf.2 (Nat.le_refl _)
      fun w hw => construct_isSome et w hwf.2 (hall w hw)
    unfold construct; simp only [bne_self_eq_false, Bool.false_eq_true, if_false,
      if_neg (Nat.ne_of_gt hwf.1), hns]
    exact hfill
  | list et lim =>
    obtain ⟨vs, rfl, hle, hall⟩ := WT_list_inv hwt
    have hwf := Ty.wf_list hwf
    obtain ⟨ns, hns, hfill⟩ := seq_fill_isSome H et vs lim hwf hle
      fun w hw => construct_isSome et w hwf (hall w hw)
    rw [construct]
    split
    · rfl
    · simp only [if_neg (Nat.not_lt.2 hle), hns, Option.isSome_map]
      exact hfill
  | container fs =>
    obtain ⟨vs, rfl, hwt⟩ := WT_container_inv hwt
    obtain ⟨ns, hns⟩ := Option.isSome_iff_exists.1
      (constructFields_isSome fs vs (Ty.wf_container hwf).2 hwt)
    unfold construct; simp only [hns]
    exact fill_isSome H _ _ (Nat.le_of_eq (constructFields_length H fs vs ns hns))
  | union hasNone opts =>
    obtain ⟨sel, w, rfl, h⟩ := WT_union_inv hwt
    unfold construct; simp only [if_neg (Nat.not_le.2 (WT_union_sel_lt hwt))]
    split at h
    · next hc =>
      rw [if_pos hc, h]
      rfl
    · next hc =>
      rw [if_neg hc, Option.isSome_map]
      exact constructOpt_isSome opts _ w (Ty.wf_union hwf).2 h

theorem constructFields_isSome (fs : List Ty) (vs : List Val) (hwf : Ty.wfList fs = true)
    (hwt : WTs fs vs = true) : (Impl.constructFields H fs vs).isSome = true := by
  match fs, vs, hwt with
  | [], [], _ => rfl
  | t :: ts, v :: vs, hwt =>
    rw [WTs, Bool.and_eq_true] at hwt
    have hwf := Ty.wfList_cons hwf
    obtain ⟨m, hm⟩ := Option.isSome_iff_exists.1 (construct_isSome t v hwf.1 hwt.1)
    obtain ⟨ms, hms⟩ := Option.isSome_iff_exists.1 (constructFields_isSome ts vs hwf.2 hwt.2)
    rw [constructFields, hm, hms]
    rfl

theorem constructOpt_isSome (opts : List Ty) (k : Nat) (v : Val) (hwf : Ty.wfList opts = true)
    (hwt : WTopt opts k v = true) : (Impl.constructOpt H opts k v).isSome = true := by
  match opts, k, hwt with
  | t :: _, 0, hwt => exact construct_isSome t v (Ty.wfList_cons hwf).1 hwt
  | _ :: ts, k + 1, hwt => exact constructOpt_isSome ts k v (Ty.wfList_cons hwf).2 hwt
end

theorem construct_some_wt (t : Ty) (v : Val) (n : Node) (h : Impl.construct H t v = some n)
    (hwf : t.wf = true) : WT t v = true :=
  ReprBasics.repr_wt H t v n (ReprBasics.construct_repr H t v n hwf h)

theorem constructFields_some_wt (fs : List Ty) (vs : List Val) (ns : List Node)
    (h : Impl.constructFields H fs vs = some ns) (hwf : Ty.wfList fs = true) : WTs fs vs = true :=
  ReprBasics.reprFields_wt H fs vs ns (ReprBasics.constructFields_repr H fs vs ns hwf h)

theorem constructOpt_some_wt (opts : List Ty) (k : Nat) (v : Val) (n : Node)
    (h : Impl.constructOpt H opts k v = some n) (hwf : Ty.wfList opts = true) :
    WTopt opts k v = true :=
  ReprBasics.reprOpt_wt H opts k v n (ReprBasics.constructOpt_repr H opts k v n hwf h)

theorem repr_exists (t : Ty) (v : Val) (hwf : t.wf = true) (hwt : WT t v = true) :
    ∃ n, Impl.construct H t v = some n ∧ Impl.Repr H t v n := by
  obtain ⟨n, hn⟩ := Option.isSome_iff_exists.1 (construct_isSome H t v hwf hwt)
  exact ⟨n, hn, ReprBasics.construct_repr H t v n hwf hn⟩

/-- C01: the tree a constructor builds has the SSZ hash tree root -/
theorem construct_root (t : Ty) (v : Val) (n : Node) (hwf : t.wf = true)
    (h : Impl.construct H t v = some n) : n.root H = Spec.htr H t v :=
  ReprBasics.repr_root H t v n hwf (ReprBasics.construct_repr H t v n hwf h)

theorem constructFields_root (fs : List Ty) (vs : List Val) (ns : List Node)
    (hwf : Ty.wfList fs = true) (h : Impl.constructFields H fs vs = some ns) :
    ns.map (·.root H) = Spec.htrFields H fs vs :=
  ReprBasics.reprFields_root H fs vs ns hwf (ReprBasics.constructFields_repr H fs vs ns hwf h)

theorem constructOpt_root (opts : List Ty) (k : Nat) (v : Val) (n : Node)
    (hwf : Ty.wfList opts = true) (h : Impl.constructOpt H opts k v = some n) :
    n.root H = Spec.htrOpt H opts k v :=
  ReprBasics.reprOpt_root H opts k v n hwf (ReprBasics.constructOpt_repr H opts k v n hwf h)

/-- C01 in one statement: a well-typed value of a well-formed type has a constructor tree, and
    its root is the SSZ hash tree root -/
theorem construct_spec (t : Ty) (v : Val) (hwf : t.wf = true) (hwt : WT t v = true) :
    ∃ n, Impl.construct H t v = some n ∧ n.root H = Spec.htr H t v := by
  have h := construct_isSome H t v hwf hwt
  rw [Option.isSome_iff_exists] at h
  obtain ⟨n, hn⟩ := h
  exact ⟨n, hn, construct_root H t v n hwf hn⟩

end Rmk.ConstructRoot
