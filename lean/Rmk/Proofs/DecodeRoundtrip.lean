/-
Decoding inverts encoding (property C03): `Impl.deser t (Spec.serialize t v ++ rest) |serialize t v|
= some (v, rest)` for well-formed `t`, well-typed `v`, and an encoding shorter than `2^32`.
-/
import Rmk.Impl.Codec
import Rmk.Proofs.BytesLemmas
import Rmk.Proofs.Gindex
import Rmk.Proofs.Sizes
import Rmk.Proofs.TypeLemmas
namespace Rmk.DecodeRoundtrip
open Rmk Rmk.Impl Rmk.Spec

theorem readOffset_toLE {off : Nat} {s : Impl.Stream} (h : off < 2 ^ 32) :
    readOffset (toLE 4 off ++ s) = (off, s) := by
  unfold readOffset; simp only [List.take_left' (toLE_length 4 off), List.drop_left' (toLE_length 4 off)]
  rw [fromLE_toLE' 4 off (by simpa using h)]

/-- decoding the encoding of a valid value, with anything after it, gives the value and the rest;
    proved per type former with `RT` of the component types as premise -/
def RT (t : Ty) : Prop :=
  ∀ (v : Val) (rest : Impl.Stream), t.wf = true → WT t v = true → (serialize t v).length < 2 ^ 32 →
    deser t (serialize t v ++ rest) (serialize t v).length = some (v, rest)

theorem rt_uint (nb : Nat) : RT (.uint nb) := by
  intro v rest _ hwt _
  obtain ⟨n, rfl, hn⟩ := WT_uint_inv hwt
  unfold serialize deser; simp only [toLE_length, bne_self_eq_false, Bool.false_eq_true, ↓reduceIte,
    List.take_left' (toLE_length nb n), List.drop_left' (toLE_length nb n), fromLE_toLE' nb n hn]

theorem rt_bool : RT .bool := by
  intro v rest _ hwt _
  obtain ⟨n, rfl, hn⟩ := WT_bool_inv hwt
  match n, hn with
  | 0, _ => rfl
  | 1, _ => rfl

theorem rt_bytevector (len : Nat) : RT (.bytevector len) := by
  intro v rest _ hwt _
  obtain ⟨bs, rfl, rfl⟩ := WT_bytevector_inv hwt
  unfold serialize deser; simp

theorem rt_bytelist (lim : Nat) : RT (.bytelist lim) := by
  intro v rest _ hwt _
  obtain ⟨bs, rfl, hle⟩ := WT_bytelist_inv hwt
  unfold serialize deser; simp [Nat.not_lt.2 hle]

theorem rt_bitvector (len : Nat) : RT (.bitvector len) := by
  intro v rest hwf hwt _
  obtain ⟨bs, rfl, rfl⟩ := WT_bitvector_inv hwt
  have hne : bs ≠ [] := List.ne_nil_of_length_pos (of_decide_eq_true hwf)
  obtain ⟨pre, last, hsplit, ⟨q, hq⟩, hr⟩ := exists_full_bytes_append bs.dropLast
  have hbs := List.dropLast_concat_getLast hne
  rw [hsplit] at hbs
  generalize bs.getLast hne = b at hbs
  subst hbs
  obtain ⟨hl, hlast⟩ := bitsToBytes_concat b hq hr
  have hlen : (pre ++ last ++ [b]).length = q * 8 + (last ++ [b]).length := by
    simp only [List.length_append, hq, Nat.mul_comm, Nat.add_assoc]
  have hsc : ((pre ++ last ++ [b]).length + 7) / 8 = q + 1 := (bitsToBytes_length _).symm.trans hl
  have hc : ¬ (q * 8 + bitLength (bitsToNat (last ++ [b])) > (pre ++ last ++ [b]).length) := by
    rw [hlen]
    exact Nat.not_lt.2 (Nat.add_le_add_left ((bitLength_le_iff _ _).2 (bitsToNat_lt _)) _)
  unfold serialize deser; simp only [hl, hsc, bne_self_eq_false, Bool.false_eq_true, ↓reduceIte,
    List.take_left' hl, List.drop_left' hl, hlast, Nat.add_sub_cancel, hc, Nat.succ_ne_zero,
    Bool.or_self, decide_false, bytesToBits_bitsToBytes]

theorem rt_bitlist (lim : Nat) : RT (.bitlist lim) := by
  intro v rest _ hwt _
  obtain ⟨bs, rfl, hle⟩ := WT_bitlist_inv hwt
  obtain ⟨pre, last, rfl, ⟨q, hq⟩, hr⟩ := exists_full_bytes_append bs
  obtain ⟨hl, hlast⟩ := bitsToBytes_concat true hq hr
  rw [bitsToNat_append_true] at hlast
  have hlen : (pre ++ last).length = q * 8 + last.length := by
    rw [List.length_append, hq, Nat.mul_comm]
  rw [hlen] at hle
  have h2 : ¬ (q + 1 > lim / 8 + 1) := Nat.not_lt.2 (Nat.succ_le_succ
    ((Nat.le_div_iff_mul_le (by decide)).2 (Nat.le_trans (Nat.le_add_right _ _) hle)))
  have h3 : 2 ^ last.length + bitsToNat last ≠ 0 :=
    Nat.ne_of_gt (Nat.add_pos_left (Nat.two_pow_pos _) _)
  have htk : (bytesToBits (bitsToBytes (pre ++ last ++ [true]))).take (q * 8 + last.length)
      = pre ++ last := by
    rw [← hlen, bytesToBits_bitsToBytes_eq, List.append_assoc (pre ++ last), List.take_left]
  unfold serialize deser; simp only [hl, List.take_left' hl, List.drop_left' hl,
    Nat.not_lt.2 (Nat.le_add_left 1 q), h2, ↓reduceIte, bne_self_eq_false, Bool.false_eq_true, hlast,
    bitLength_two_pow_add _ _ (bitsToNat_lt last), h3, Nat.add_sub_cancel, Nat.not_lt.2 hle, htk]

/-- the offsets written into the fixed section (running sums starting at `off`) -/
def offsList : List (Bool × List UInt8) → Nat → List Nat
  | [], _ => []
  | (true, _) :: rest, off => offsList rest off
  | (false, b) :: rest, off => off :: offsList rest (off + b.length)

/-- the offsets followed by the end of the variable section -/
def bounds : List (Bool × List UInt8) → Nat → List Nat
  | [], off => [off]
  | (true, _) :: rest, off => bounds rest off
  | (false, b) :: rest, off => off :: bounds rest (off + b.length)

theorem offsList_append_end (parts : List (Bool × List UInt8)) (off : Nat) :
    offsList parts off ++ [off + (varSection parts).length] = bounds parts off := by
  induction parts generalizing off with
  | nil => simp [offsList, bounds, varSection]
  | cons p rest ih =>
    obtain ⟨f, b⟩ := p
    cases f
    · simp only [offsList, bounds, varSection, List.cons_append, List.length_append, ← ih]
      rw [Nat.add_assoc]
    · simp only [offsList, bounds, varSection, ih]

theorem bounds_head (parts : List (Bool × List UInt8)) (off : Nat) :
    ∃ tl, bounds parts off = off :: tl := by
  induction parts generalizing off with
  | nil => exact ⟨[], rfl⟩
  | cons p rest ih =>
    obtain ⟨f, b⟩ := p
    cases f
    · exact ⟨_, rfl⟩
    · simp only [bounds]; exact ih off

theorem mem_parts_le_interleave {parts : List (Bool × List UInt8)} {p : Bool × List UInt8}
    (h : p ∈ parts) : p.2.length ≤ (interleave parts).length := by
  rw [interleave_length]
  induction parts with
  | nil => cases h
  | cons q rest ih =>
    rw [List.map_cons, List.sum_cons]
    rcases List.mem_cons.1 h with rfl | h'
    · refine Nat.le_trans ?_ (Nat.le_add_right _ _)
      cases p.1
      · exact Nat.le_add_left _ 4
      · exact Nat.le_refl _
    · exact Nat.le_trans (ih h') (Nat.le_add_left _ _)

/-- all parts fixed-size: plain concatenation -/
def fparts (ser : Val → List UInt8) (vs : List Val) : List (Bool × List UInt8) :=
  vs.map fun v => (true, ser v)

def vparts (ser : Val → List UInt8) (vs : List Val) : List (Bool × List UInt8) :=
  vs.map fun v => (false, ser v)

@[simp] theorem fparts_nil (ser : Val → List UInt8) : fparts ser [] = [] := rfl
@[simp] theorem fparts_cons (ser : Val → List UInt8) (v : Val) (vs : List Val) :
    fparts ser (v :: vs) = (true, ser v) :: fparts ser vs := rfl
@[simp] theorem vparts_nil (ser : Val → List UInt8) : vparts ser [] = [] := rfl
@[simp] theorem vparts_cons (ser : Val → List UInt8) (v : Val) (vs : List Val) :
    vparts ser (v :: vs) = (false, ser v) :: vparts ser vs := rfl

theorem interleave_fparts (ser : Val → List UInt8) (vs : List Val) :
    interleave (fparts ser vs) = (vs.map ser).flatten :=
  Sizes.interleave_map_true ser vs

theorem fixedTotal_vparts (ser : Val → List UInt8) (vs : List Val) :
    fixedTotal (vparts ser vs) = 4 * vs.length :=
  Sizes.fixedTotal_map_false ser vs

theorem deserFixedN_flatten {dec : Dec} {l : Nat} {ser : Val → List UInt8} {vs : List Val}
    {rest : Impl.Stream} (h : ∀ v ∈ vs, ∀ r, dec (ser v ++ r) l = some (v, r)) :
    deserFixedN dec l vs.length ((vs.map ser).flatten ++ rest) = some (vs, rest) := by
  induction vs with
  | nil => rfl
  | cons v vs ih =>
    have hv := h v (by simp) ((vs.map ser).flatten ++ rest)
    have ih' := ih (fun w hw => h w (by simp [hw]))
    unfold deserFixedN; simp only [List.length_cons, List.map_cons, List.flatten_cons, List.append_assoc,
      hv, ih']

theorem deserSeqWith_fixed {dec : Dec} {l emin emax : Nat} {validCount : Nat → Bool}
    {ser : Val → List UInt8} {vs : List Val} {rest : Impl.Stream} (hl : 0 < l)
    (hser : ∀ v ∈ vs, (ser v).length = l)
    (hdec : ∀ v ∈ vs, ∀ r, dec (ser v ++ r) l = some (v, r))
    (hvc : validCount vs.length = true) :
    deserSeqWith dec true l emin emax validCount (interleave (fparts ser vs) ++ rest)
      (interleave (fparts ser vs)).length = some (.seq vs, rest) := by
  rw [interleave_fparts, Sizes.flatten_length_const l _ (List.forall_mem_map.2 hser), List.length_map,
    Nat.mul_comm]
  have h0 : ¬ (l = 0) := by omega
  have h1 : vs.length * l % l = 0 := Nat.mul_mod_left _ _
  have h2 : vs.length * l / l = vs.length := Nat.mul_div_cancel _ hl
  unfold deserSeqWith; simp only [↓reduceIte, h0, h1, h2, hvc, deserFixedN_flatten hdec,
    bne_self_eq_false, Bool.false_eq_true, Bool.not_true, Option.map_some]

theorem readOffsets_vparts {ser : Val → List UInt8} {vs : List Val} {off : Nat} (tail : Impl.Stream)
    (h : off + (varSection (vparts ser vs)).length < 2 ^ 32) :
    readOffsets vs.length (fixedSection (vparts ser vs) off ++ tail)
      = (offsList (vparts ser vs) off, tail) := by
  induction vs generalizing off with
  | nil => rfl
  | cons v vs ih =>
    simp only [vparts_cons, varSection, List.length_append, ← Nat.add_assoc] at h
    have h1 : off < 2 ^ 32 :=
      Nat.lt_of_le_of_lt (Nat.le_trans (Nat.le_add_right _ _) (Nat.le_add_right _ _)) h
    have ih' := ih h
    simp only [vparts_cons, fixedSection, List.length_cons, readOffsets, List.append_assoc,
      readOffset_toLE h1, ih', offsList]

theorem deserVarN_vparts {dec : Dec} {emin emax : Nat} {ser : Val → List UInt8} {vs : List Val}
    (scope off : Nat) (rest : Impl.Stream)
    (hb : ∀ v ∈ vs, emin ≤ (ser v).length ∧ (ser v).length ≤ emax)
    (hdec : ∀ v ∈ vs, ∀ r, dec (ser v ++ r) (ser v).length = some (v, r))
    (hsc : off + (varSection (vparts ser vs)).length ≤ scope) :
    deserVarN dec emin emax scope (bounds (vparts ser vs) off) (varSection (vparts ser vs) ++ rest)
      = some (vs, rest) := by
  induction vs generalizing off with
  | nil => unfold deserVarN; simp [bounds, varSection]
  | cons v vs ih =>
    have hv := hdec v List.mem_cons_self (varSection (vparts ser vs) ++ rest)
    have hbv := hb v List.mem_cons_self
    simp only [vparts_cons, varSection, List.length_append, ← Nat.add_assoc] at hsc
    have ih' := ih (off + (ser v).length) (fun w hw => hb w (List.mem_cons_of_mem _ hw))
      (fun w hw => hdec w (List.mem_cons_of_mem _ hw)) hsc
    obtain ⟨tl, htl⟩ := bounds_head (vparts ser vs) (off + (ser v).length)
    rw [htl] at ih'
    unfold deserVarN; simp only [vparts_cons, bounds, varSection, htl, Nat.not_lt.2 (Nat.le_add_right _ _),
      Nat.not_lt.2 (Nat.le_trans (Nat.le_add_right _ _) hsc), ↓reduceIte, Nat.add_sub_cancel_left,
      hbv.1, hbv.2, decide_true, Bool.and_self, Bool.not_true, Bool.false_eq_true,
      List.append_assoc, hv, ih']

theorem deserSeqWith_var {dec : Dec} {l emin emax : Nat} {validCount : Nat → Bool}
    {ser : Val → List UInt8} {vs : List Val} {rest : Impl.Stream}
    (hb : ∀ v ∈ vs, emin ≤ (ser v).length ∧ (ser v).length ≤ emax)
    (hdec : ∀ v ∈ vs, ∀ r, dec (ser v ++ r) (ser v).length = some (v, r))
    (hvc : validCount vs.length = true)
    (hlen : (interleave (vparts ser vs)).length < 2 ^ 32) :
    deserSeqWith dec false l emin emax validCount (interleave (vparts ser vs) ++ rest)
      (interleave (vparts ser vs)).length = some (.seq vs, rest) := by
  cases vs with
  | nil =>
    simp only [List.length_nil] at hvc
    unfold deserSeqWith; simp [interleave, fixedSection, varSection, hvc]
  | cons v vs =>
    have hft : fixedTotal ((false, ser v) :: vparts ser vs) = 4 * (vs.length + 1) :=
      fixedTotal_vparts ser (v :: vs)
    have hsc : (interleave (vparts ser (v :: vs))).length
        = 4 * (vs.length + 1) + (ser v).length + (varSection (vparts ser vs)).length := by
      rw [Sizes.interleave_length_total, vparts_cons, hft, Nat.add_assoc]
      simp only [varSection, List.length_append]
    rw [hsc] at hlen ⊢
    rw [List.length_cons] at hvc
    have hro := readOffsets_vparts (varSection (vparts ser (v :: vs)) ++ rest) hlen
    have hdv := deserVarN_vparts
      (4 * (vs.length + 1) + (ser v).length + (varSection (vparts ser vs)).length)
      (4 * (vs.length + 1)) rest hb hdec
      (by simp only [vparts_cons, varSection, List.length_append, Nat.add_assoc]; exact Nat.le_refl _)
    simp only [vparts_cons, bounds] at hdv hro
    rw [← offsList_append_end] at hdv
    have hle : 4 * (vs.length + 1)
        ≤ 4 * (vs.length + 1) + (ser v).length + (varSection (vparts ser vs)).length :=
      Nat.le_trans (Nat.le_add_right _ _) (Nat.le_add_right _ _)
    have h0 := Nat.ne_of_gt (Nat.lt_of_lt_of_le (Nat.mul_pos (by decide) (Nat.succ_pos _)) hle)
    unfold deserSeqWith; simp only [Bool.false_eq_true, ↓reduceIte, interleave, vparts_cons, hft,
      fixedSection, List.append_assoc, readOffset_toLE (Nat.lt_of_le_of_lt hle hlen), h0,
      Nat.not_lt.2 hle, Nat.mul_mod_right, Nat.mul_div_cancel_left _ (by decide : 0 < 4),
      bne_self_eq_false, hvc, Bool.not_true, Nat.add_one_ne_zero, Nat.add_sub_cancel, hro,
      List.cons_append, hdv, Option.map_some]

/-- result of the first container pass: decoded fixed-size fields, `none` for variable-size ones -/
def slotsOf : List Ty → List Val → List (Option Val)
  | t :: ts, v :: vs => (if isFixed t then some v else none) :: slotsOf ts vs
  | _, _ => []

/-- the variable-size fields in order -/
def dynOf : List Ty → List Val → List Val
  | t :: ts, v :: vs => if isFixed t then dynOf ts vs else v :: dynOf ts vs
  | _, _ => []

theorem mergeSlots_slotsOf {fs : List Ty} {vs : List Val} (h : WTs fs vs = true) :
    mergeSlots (slotsOf fs vs) (dynOf fs vs) = vs := by
  induction fs generalizing vs with
  | nil => rw [WTs_nil_inv h]; rfl
  | cons t ts ih =>
    obtain ⟨v, vs, rfl, _, hvs⟩ := WTs_cons_inv h
    cases hf : isFixed t <;>
      simp only [slotsOf, dynOf, hf, ↓reduceIte, Bool.false_eq_true, mergeSlots, ih hvs]

theorem fixedTotal_serializeFields {fs : List Ty} {vs : List Val} (hwf : Ty.wfList fs = true)
    (hwt : WTs fs vs = true) : fixedTotal (serializeFields fs vs) = fixedPartLen fs := by
  induction fs generalizing vs with
  | nil => rw [WTs_nil_inv hwt]; rfl
  | cons t ts ih =>
    obtain ⟨v, vs, rfl, hv, hvs⟩ := WTs_cons_inv hwt
    obtain ⟨ht, hts⟩ := Ty.wfList_cons hwf
    cases hf : isFixed t
    · unfold serializeFields; simp only [fixedTotal, fixedPartLen, hf, Bool.false_eq_true, ↓reduceIte,
        ih hts hvs]
    · unfold serializeFields; simp only [fixedTotal, fixedPartLen, hf, ↓reduceIte, ih hts hvs,
        serialize_fixed t v ht hv hf]

theorem varSection_allFixed {fs : List Ty} (vs : List Val) (hf : allFixed fs = true) :
    varSection (serializeFields fs vs) = [] := by
  induction fs generalizing vs with
  | nil => cases vs <;> rfl
  | cons t ts ih =>
    cases vs with
    | nil => rfl
    | cons v vs =>
      obtain ⟨ht, hts⟩ := Bool.and_eq_true_iff.1 hf
      unfold serializeFields; simp only [ht, varSection, ih vs hts]

theorem offsList_head {fs : List Ty} {vs : List Val} (off : Nat) (hf : allFixed fs = false)
    (hwt : WTs fs vs = true) : ∃ tl, offsList (serializeFields fs vs) off = off :: tl := by
  induction fs generalizing vs with
  | nil => cases hf
  | cons t ts ih =>
    obtain ⟨v, vs, rfl, _, hvs⟩ := WTs_cons_inv hwt
    cases ht : isFixed t
    · unfold serializeFields; simp only [ht, offsList]
      exact ⟨_, rfl⟩
    · unfold allFixed at hf; simp only [ht, Bool.true_and] at hf
      unfold serializeFields; simp only [ht, offsList]
      exact ih hf hvs

theorem rt_seq {et : Ty} (ih : RT et) (hwf : et.wf = true) {vc : Nat → Bool} {vs : List Val}
    {rest : Impl.Stream} (hwt : ∀ w ∈ vs, WT et w = true) (hvc : vc vs.length = true)
    (hlen : (interleave (vs.map fun v => (isFixed et, serialize et v))).length < 2 ^ 32) :
    deserSeqWith (deser et) (isFixed et) (fixedLen et) (minLen et) (maxLen et) vc
      (interleave (vs.map fun v => (isFixed et, serialize et v)) ++ rest)
      (interleave (vs.map fun v => (isFixed et, serialize et v))).length = some (.seq vs, rest) := by
  have hel : ∀ v ∈ vs, (serialize et v).length < 2 ^ 32 := fun v hv =>
    Nat.lt_of_le_of_lt (mem_parts_le_interleave
      (List.mem_map_of_mem (f := fun v => (isFixed et, serialize et v)) hv)) hlen
  cases hf : isFixed et with
  | true =>
    have hser := fun v hv => serialize_fixed et v hwf (hwt v hv) hf
    exact deserSeqWith_fixed (fixedLen_pos et hwf hf) hser
      (fun v hv r => hser v hv ▸ ih v r hwf (hwt v hv) (hel v hv)) hvc
  | false =>
    rw [hf] at hlen
    exact deserSeqWith_var (fun v hv => serialize_bounds et v hwf (hwt v hv))
      (fun v hv r => ih v r hwf (hwt v hv) (hel v hv)) hvc hlen

theorem rt_vector {et : Ty} {n : Nat} (ih : RT et) : RT (.vector et n) := by
  intro v rest hwf hwt hlen
  obtain ⟨vs, rfl, rfl, hall⟩ := WT_vector_inv hwt
  unfold serialize at hlen ⊢; unfold deser
  exact rt_seq ih (Ty.wf_vector hwf).2 hall (beq_self_eq_true _) hlen

theorem rt_list {et : Ty} {lim : Nat} (ih : RT et) : RT (.list et lim) := by
  intro v rest hwf hwt hlen
  obtain ⟨vs, rfl, hle, hall⟩ := WT_list_inv hwt
  unfold serialize at hlen ⊢; unfold deser
  exact rt_seq ih (Ty.wf_list hwf) hall (decide_eq_true hle) hlen

/- Recursion on the type; a container or union recurses into its field list through the four
   lemmas on lists. -/
mutual
theorem rt : (t : Ty) → RT t
  | .uint nb => rt_uint nb
  | .bool => rt_bool
  | .bitvector len => rt_bitvector len
  | .bitlist lim => rt_bitlist lim
  | .bytevector len => rt_bytevector len
  | .bytelist lim => rt_bytelist lim
  | .vector et n => rt_vector (rt et)
  | .list et lim => rt_list (rt et)
  | .container fs => by
    intro v rest hwf hwt hlen
    obtain ⟨vs, rfl, hwts⟩ := WT_container_inv hwt
    have hwfs := (Ty.wf_container hwf).2
    have htot := Sizes.interleave_length_total (serializeFields fs vs)
    unfold serialize at hlen; simp only [htot] at hlen
    have hfl := Nat.lt_of_le_of_lt (Nat.le_add_right _ _) hlen
    cases hf : allFixed fs with
    | true =>
      have hsc := serialize_fixed (.container fs) (.seq vs) hwf hwt hf
      have hff := rtFixedFields fs vs (fixedTotal (serializeFields fs vs)) rest hwfs hwts hf hfl
      unfold serialize at hsc ⊢; simp only [fixedLen, interleave, varSection_allFixed vs hf,
        List.append_nil] at hsc ⊢
      unfold deser; simp only [hf, ↓reduceIte, hsc, bne_self_eq_false, Bool.false_eq_true, hff,
        Option.map_some]
    | false =>
      have hft := fixedTotal_serializeFields hwfs hwts
      have hscan := rtScan fs vs (fixedTotal (serializeFields fs vs))
        (varSection (serializeFields fs vs) ++ rest) hwfs hwts hfl hlen
      obtain ⟨tl, htl⟩ := offsList_head (fixedTotal (serializeFields fs vs)) hf hwts
      have hdyn := rtDyn fs vs
        (fixedTotal (serializeFields fs vs) + (varSection (serializeFields fs vs)).length)
        (fixedTotal (serializeFields fs vs)) rest hwfs hwts
        (Nat.lt_of_le_of_lt (Nat.le_add_left _ _) hlen) (Nat.le_refl _)
      rw [← offsList_append_end, htl, ← htot, hft] at hdyn
      rw [htl, ← List.append_assoc] at hscan
      change deserScan fs (interleave (serializeFields fs vs) ++ rest) = _ at hscan
      unfold serialize deser; simp only [hf, Bool.false_eq_true, ↓reduceIte, hscan, List.head?_cons, hft,
        bne_self_eq_false, hdyn, mergeSlots_slotsOf hwts]
  | .union hn opts => by
    intro v rest hwf hwt hlen
    obtain ⟨sel, w, rfl, hw⟩ := WT_union_inv hwt
    have hwfs := (Ty.wf_union hwf).2
    simp only [Ty.wf, Bool.and_eq_true, decide_eq_true_eq] at hwf
    unfold serialize at hlen
    by_cases hc : (hn && sel == 0) = true
    · rw [if_pos hc] at hw
      simp only [Bool.and_eq_true, beq_iff_eq] at hc
      obtain ⟨rfl, rfl⟩ := hc
      subst hw
      unfold serialize deser; simp [optCount]
    · simp only [hc, Bool.false_eq_true, ↓reduceIte, List.length_cons] at hw hlen
      have hsel := WT_union_sel_lt hwt
      have hnat : (UInt8.ofNat sel).toNat = sel := by
        rw [UInt8.toNat_ofNat']; apply Nat.mod_eq_of_lt; omega
      have hopt := rtOpt opts (optIndex hn sel) w rest hwfs hw (Nat.lt_of_succ_lt hlen)
      unfold serialize deser; simp only [hc, Bool.false_eq_true, ↓reduceIte, List.length_cons,
        Nat.not_lt.2 (Nat.le_add_left 1 _), List.cons_append, List.take_succ_cons, List.take_zero,
        fromLE_cons, fromLE_nil, hnat, Nat.mul_zero, Nat.add_zero, Nat.not_le.2 hsel,
        List.drop_succ_cons, List.drop_zero, Nat.add_sub_cancel, hopt, Option.map_some]

theorem rtFixedFields (fs : List Ty) (vs : List Val) (off : Nat) (tail : Stream)
    (hwf : Ty.wfList fs = true) (hwt : WTs fs vs = true) (hfix : allFixed fs = true)
    (hlen : fixedTotal (serializeFields fs vs) < 2 ^ 32) :
    deserFixedFields fs (fixedSection (serializeFields fs vs) off ++ tail) = some (vs, tail) := by
  cases fs with
  | nil => rw [WTs_nil_inv hwt]; rfl
  | cons t ts =>
    obtain ⟨v, vs, rfl, hv, hvs⟩ := WTs_cons_inv hwt
    obtain ⟨ht, hts⟩ := Ty.wfList_cons hwf
    obtain ⟨hf, hfs⟩ := Bool.and_eq_true_iff.1 hfix
    unfold serializeFields at hlen; simp only [hf, fixedTotal] at hlen
    have h1 := rt t v (fixedSection (serializeFields ts vs) off ++ tail) ht hv
      (Nat.lt_of_le_of_lt (Nat.le_add_right _ _) hlen)
    rw [serialize_fixed t v ht hv hf] at h1
    have h2 := rtFixedFields ts vs off tail hts hvs hfs
      (Nat.lt_of_le_of_lt (Nat.le_add_left _ _) hlen)
    unfold serializeFields deserFixedFields; simp only [hf, fixedSection, List.append_assoc, h1, h2]

theorem rtScan (fs : List Ty) (vs : List Val) (off : Nat) (tail : Stream)
    (hwf : Ty.wfList fs = true) (hwt : WTs fs vs = true)
    (hlen : fixedTotal (serializeFields fs vs) < 2 ^ 32)
    (hoff : off + (varSection (serializeFields fs vs)).length < 2 ^ 32) :
    deserScan fs (fixedSection (serializeFields fs vs) off ++ tail)
      = some (slotsOf fs vs, offsList (serializeFields fs vs) off, tail) := by
  cases fs with
  | nil => rw [WTs_nil_inv hwt]; rfl
  | cons t ts =>
    obtain ⟨v, vs, rfl, hv, hvs⟩ := WTs_cons_inv hwt
    obtain ⟨ht, hts⟩ := Ty.wfList_cons hwf
    cases hf : isFixed t with
    | true =>
      unfold serializeFields at hlen hoff; simp only [hf, fixedTotal, varSection] at hlen hoff
      have h1 := rt t v (fixedSection (serializeFields ts vs) off ++ tail) ht hv
        (Nat.lt_of_le_of_lt (Nat.le_add_right _ _) hlen)
      rw [serialize_fixed t v ht hv hf] at h1
      have h2 := rtScan ts vs off tail hts hvs (Nat.lt_of_le_of_lt (Nat.le_add_left _ _) hlen) hoff
      unfold serializeFields deserScan; simp only [hf, fixedSection, List.append_assoc, ↓reduceIte, h1, h2,
        slotsOf, offsList]
    | false =>
      unfold serializeFields at hlen hoff; simp only [hf, fixedTotal, varSection, List.length_append,
        ← Nat.add_assoc] at hlen hoff
      have h2 := rtScan ts vs (off + (serialize t v).length) tail hts hvs
        (Nat.lt_of_le_of_lt (Nat.le_add_left _ _) hlen) hoff
      have hlt : off < 2 ^ 32 :=
        Nat.lt_of_le_of_lt (Nat.le_trans (Nat.le_add_right _ _) (Nat.le_add_right _ _)) hoff
      unfold serializeFields deserScan; simp only [hf, fixedSection, List.append_assoc,
        Bool.false_eq_true, ↓reduceIte, readOffset_toLE hlt, h2, slotsOf, offsList]

theorem rtDyn (fs : List Ty) (vs : List Val) (scope off : Nat) (rest : Stream)
    (hwf : Ty.wfList fs = true) (hwt : WTs fs vs = true)
    (hlen : (varSection (serializeFields fs vs)).length < 2 ^ 32)
    (hsc : off + (varSection (serializeFields fs vs)).length ≤ scope) :
    deserDyn fs scope (bounds (serializeFields fs vs) off)
        (varSection (serializeFields fs vs) ++ rest)
      = some (dynOf fs vs, rest) := by
  cases fs with
  | nil => rw [WTs_nil_inv hwt]; rfl
  | cons t ts =>
    obtain ⟨v, vs, rfl, hv, hvs⟩ := WTs_cons_inv hwt
    obtain ⟨ht, hts⟩ := Ty.wfList_cons hwf
    cases hf : isFixed t with
    | true =>
      unfold serializeFields at hlen hsc ⊢; unfold deserDyn; simp only [hf, bounds, varSection, ↓reduceIte, dynOf] at hlen hsc ⊢
      exact rtDyn ts vs scope off rest hts hvs hlen hsc
    | false =>
      unfold serializeFields at hlen hsc; simp only [hf, varSection, List.length_append, ← Nat.add_assoc] at hlen hsc
      have h1 := rt t v (varSection (serializeFields ts vs) ++ rest) ht hv
        (Nat.lt_of_le_of_lt (Nat.le_add_right _ _) hlen)
      have hb := serialize_bounds t v ht hv
      have h2 := rtDyn ts vs scope (off + (serialize t v).length) rest hts hvs
        (Nat.lt_of_le_of_lt (Nat.le_add_left _ _) hlen) hsc
      obtain ⟨tl, htl⟩ := bounds_head (serializeFields ts vs) (off + (serialize t v).length)
      rw [htl] at h2
      unfold serializeFields deserDyn; simp only [hf, bounds, varSection, htl, Bool.false_eq_true,
        ↓reduceIte, Nat.not_lt.2 (Nat.le_add_right _ _),
        Nat.not_lt.2 (Nat.le_trans (Nat.le_add_right _ _) hsc), Nat.add_sub_cancel_left, hb.1, hb.2,
        decide_true, Bool.and_self, Bool.not_true, List.append_assoc, h1, h2, dynOf]

theorem rtOpt (opts : List Ty) (k : Nat) (v : Val) (rest : Stream) (hwf : Ty.wfList opts = true)
    (hwt : WTopt opts k v = true) (hlen : (serializeOpt opts k v).length < 2 ^ 32) :
    deserOpt opts k (serializeOpt opts k v ++ rest) (serializeOpt opts k v).length
      = some (v, rest) := by
  match opts, k with
  | [], _ => cases hwt
  | t :: ts, 0 => exact rt t v rest (Ty.wfList_cons hwf).1 hwt hlen
  | t :: ts, k + 1 => exact rtOpt ts k v rest (Ty.wfList_cons hwf).2 hwt hlen
end

/-- C03: every valid encoding is accepted anywhere in a stream, yields the same content, and consumes
    exactly `scope` bytes -/
theorem roundtrip (t : Ty) (v : Val) (rest : Stream) (hwf : t.wf = true) (hwt : WT t v = true)
    (hlen : (Spec.serialize t v).length < 2 ^ 32) :
    Impl.deser t (Spec.serialize t v ++ rest) (Spec.serialize t v).length = some (v, rest) :=
  rt t v rest hwf hwt hlen

theorem decode_bytes (t : Ty) (v : Val) (hwf : t.wf = true) (hwt : WT t v = true)
    (hlen : (Spec.serialize t v).length < 2 ^ 32) :
    Impl.deser t (Spec.serialize t v) (Spec.serialize t v).length = some (v, []) := by
  have := roundtrip t v [] hwf hwt hlen
  rwa [List.append_nil] at this

end Rmk.DecodeRoundtrip
