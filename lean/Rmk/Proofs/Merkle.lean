/-
Merkleization core: the top-down tree builders of the implementation (`fillToContents`,
`fillToLength`, `fillToDepth`, zero summaries) have the root the SSZ spec computes bottom-up
(`Spec.merkleizeNaive`, `Spec.merkleize`): each builds a `ChunkTree` of its input, and the root of a
chunk tree is `merkleize` of its data (`ct_root`).  Everything is generic in the pair hash `H`.
-/
import Rmk.Proofs.ChunkTree
import Rmk.Proofs.TreeLaws
namespace Rmk
open Rmk.Spec Rmk.Impl Rmk.ChunkTreeLemmas

theorem fillToContents_root (H : Hash) (nodes : List Node) (d : Nat) (h : nodes.length ≤ 2 ^ d) :
    ∃ n, fillToContents H nodes d = some n ∧
      n.root H = merkleize H (nodes.map (·.root H)) d := by
  obtain ⟨n, hn, hct⟩ := ct_fill_exists H nodes d h
  exact ⟨n, hn, ct_root hct⟩

theorem fillToContents_isSome_iff (H : Hash) (nodes : List Node) (d : Nat) :
    (fillToContents H nodes d).isSome ↔ nodes.length ≤ 2 ^ d := by
  constructor
  · intro hs
    apply Decidable.byContradiction
    intro hn
    rw [fillToContents_none H nodes d (Nat.lt_of_not_le hn)] at hs
    cases hs
  · intro h
    obtain ⟨n, hn, _⟩ := ct_fill_exists H nodes d h
    simp [hn]

theorem fillToDepth_root (H : Hash) (bottom : Node) (d : Nat) :
    (fillToDepth bottom d).root H = merkleize H (List.replicate (2 ^ d) (bottom.root H)) d := by
  simpa using ct_root (ct_fillToDepth H bottom d)

theorem fillToLength_root (H : Hash) (bottom : Node) (d len : Nat) (h : len ≤ 2 ^ d) :
    ∃ n, fillToLength H bottom d len = some n ∧
      n.root H = merkleize H (List.replicate len (bottom.root H)) d := by
  obtain ⟨n, hn, hct⟩ := ct_fillToLength_exists H bottom d len h
  exact ⟨n, hn, by simpa using ct_root hct⟩

theorem fillToLength_isSome_iff (H : Hash) (bottom : Node) (d len : Nat) :
    (fillToLength H bottom d len).isSome ↔ len ≤ 2 ^ d := by
  rw [fillToLength_eq_fillToContents, fillToContents_isSome_iff, List.length_replicate]

end Rmk
