/-
A partial tree served lazily (harness case kind `virtp`).  A mixed tree `m` materialises to the partial
tree `p` (`Mat H src m p`), and `p` summarises the COMPLETE tree `n` (`Summ H p n`: some subtrees of `n` are
replaced in `p` by bare leaves holding their roots).  The laws of lazily loaded trees (a mixed tree behaves like
the tree it materialises to) composed with the laws of partial trees (a partial tree fails or agrees with the
complete one): every read, the tree-reading serialiser, the export and the mutators over `m` FAIL OR AGREE with
`n`.  Generic in the pair hash `H`; hypotheses on the type `t` only where the ingredient has them.
-/
import Rmk.Proofs.ElemLaws
import Rmk.Proofs.ObjTreePartial
import Rmk.Proofs.PartialViews
import Rmk.Proofs.ReprBasics
import Rmk.Proofs.TreeLaws
import Rmk.Proofs.VirtualApplyLaws
import Rmk.Proofs.VirtualIterLaws
import Rmk.Proofs.VirtualLaws
import Rmk.Proofs.VirtualViewLaws
namespace Rmk.VirtualPartial
open Rmk Rmk.Impl Rmk.Virtual Rmk.VirtualLaws Rmk.VirtualViewLaws Rmk.VirtualIterLaws Rmk.VirtualApplyLaws
open Rmk.PartialViews Rmk.ElemLaws Rmk.ObjTreePartial

section
variable {H : Hash} {src : Src} {m : MNode} {p n : Node}

theorem root_eq (hm : Mat H src m p) (hs : Summ H p n) : m.root H = n.root H := by
  rw [mat_root hm]; exact hs.root_eq

/-- complete reads, element reads, `len` and slices over the lazily served partial tree fail, or agree with the
    complete tree -/
theorem reads_fail_or_agree (hm : Mat H src m p) (hs : Summ H p n) (t : Ty) :
    (readValM H src t m = none ∨ readValM H src t m = readVal H t n) ∧
    (∀ i, readElemM H src t m i = none ∨ readElemM H src t m i = readElem H t n i) ∧
    (viewLenM H src t m = none ∨ viewLenM H src t m = viewLen H t n) ∧
    (∀ a b, sliceReadM H src t m a b = none ∨ sliceReadM H src t m a b = sliceRead H t n a b) := by
  refine ⟨?_, ?_, ?_, ?_⟩
  · rw [readValM_mat H src t m p hm]; exact summ_readVal H t p n hs
  · intro i; rw [readElemM_mat hm t i]; exact readElem_summ_or H t p n i hs
  · rw [viewLenM_mat hm t]; exact viewLen_summ_or H t p n hs
  · intro a b; rw [sliceReadM_mat hm t a b]; exact sliceRead_summ_or H t p n a b hs

/-- the tree-reading serialiser over the lazily served partial tree fails, or agrees with the complete tree -/
theorem ser_fail_or_agree (hm : Mat H src m p) (hs : Summ H p n) (t : Ty) :
    serTreeM H src t m = none ∨ serTreeM H src t m = serTree H t n := by
  rw [serTreeM_mat H src t m p hm]; exact summ_serTree H t p n hs

/-- `to_obj()` over the lazily served partial tree of a represented value raises, or is the export of the value
    (hypotheses `t.wf`, `limitsOk t`, `Repr H t v n` inherited from `toObjTree_summ_repr`) -/
theorem export_fail_or_agree (hm : Mat H src m p) (hs : Summ H p n) (t : Ty) (v : Val)
    (hwf : t.wf = true) (hlim : ReprBasics.limitsOk t = true) (hr : Impl.Repr H t v n) :
    toObjTreeM H src t m = none ∨ toObjTreeM H src t m = some (Obj.toObj t v) := by
  rw [toObjTreeM_mat H src t m p hm]; exact toObjTree_summ_repr H t v p n hwf hlim hs hr

/-- the same against the export computed from the complete tree -/
theorem export_fail_or_agree_tree (hm : Mat H src m p) (hs : Summ H p n) (t : Ty) (v : Val)
    (hwf : t.wf = true) (hlim : ReprBasics.limitsOk t = true) (hr : Impl.Repr H t v n) :
    toObjTreeM H src t m = none ∨ toObjTreeM H src t m = toObjTree H t n := by
  rw [toObjTreeM_mat H src t m p hm]; exact toObjTree_summ H t v p n hwf hlim hs hr

/-- composition step shared by the two mutator theorems: from the "fails or summarises" law of the partial tree
    to the lazily served partial tree -/
private theorem mutator_of_summ (hm : Mat H src m p) (t : Ty) (op : Op)
    (h : Impl.apply H t p op = none ∨ ∃ p' n', Impl.apply H t p op = some p' ∧
      Impl.apply H t n op = some n' ∧ Summ H p' n') :
    applyM H src t m op = none ∨ ∃ m' p' n', applyM H src t m op = some m' ∧
      Impl.apply H t n op = some n' ∧ Mat H src m' p' ∧ Summ H p' n' ∧ m'.root H = n'.root H := by
  rcases h with hn | ⟨p', n', hp, hn, hs'⟩
  · exact .inl ((applyM_none_iff hm t op).2 hn)
  · cases hmm : applyM H src t m op with
    | none => exact .inl rfl
    | some m' =>
      obtain ⟨p2, hp2, hmat, hroot⟩ := applyM_root hm t op m' hmm
      rw [hp] at hp2; cases hp2
      exact .inr ⟨m', p', n', rfl, hn, hmat, hs', by rw [hroot]; exact hs'.root_eq⟩

/-- Mutators, every operation except `append`, no hypothesis on `H` (inherits "not append" from
    `summ_apply_partial`; the `append` case is false for a hash with a zero-hash collision, see
    `PartialViews.summ_apply_partial`): a mutator applied through the lazily served partial tree fails, or the
    complete tree's mutator succeeds, the new mixed backing again materialises to a partial tree that summarises
    the new complete tree, and the roots are equal. -/
theorem mutator_root_partial (hm : Mat H src m p) (hs : Summ H p n) (t : Ty) (op : Op)
    (hop : ∀ v, op ≠ .append v) :
    applyM H src t m op = none ∨ ∃ m' p' n', applyM H src t m op = some m' ∧
      Impl.apply H t n op = some n' ∧ Mat H src m' p' ∧ Summ H p' n' ∧ m'.root H = n'.root H :=
  mutator_of_summ hm t op (summ_apply_partial H t p n op hs hop)

/-- Mutators, all operations (`append` included), under `ZeroInj H` (inherited from `summ_apply`; implied by
    collision-freeness, `zeroInj_of_injective2`) -/
theorem mutator_root (hZ : ZeroInj H) (hm : Mat H src m p) (hs : Summ H p n) (t : Ty) (op : Op) :
    applyM H src t m op = none ∨ ∃ m' p' n', applyM H src t m op = some m' ∧
      Impl.apply H t n op = some n' ∧ Mat H src m' p' ∧ Summ H p' n' ∧ m'.root H = n'.root H :=
  mutator_of_summ hm t op (summ_apply H hZ t p n op hs)

/-- the short "same root" forms: a mutator that succeeds through the lazily served partial tree succeeds on the
    complete tree, with a backing of the same root -/
theorem mutator_root_partial_some (hm : Mat H src m p) (hs : Summ H p n) (t : Ty) (op : Op)
    (hop : ∀ v, op ≠ .append v) (m' : MNode) (h : applyM H src t m op = some m') :
    ∃ n', Impl.apply H t n op = some n' ∧ m'.root H = n'.root H := by
  rcases mutator_root_partial hm hs t op hop with hn | ⟨m2, _, n', h1, h2, _, _, hr⟩
  · rw [hn] at h; cases h
  · rw [h1] at h; cases h; exact ⟨n', h2, hr⟩

theorem mutator_root_some (hZ : ZeroInj H) (hm : Mat H src m p) (hs : Summ H p n) (t : Ty) (op : Op)
    (m' : MNode) (h : applyM H src t m op = some m') :
    ∃ n', Impl.apply H t n op = some n' ∧ m'.root H = n'.root H := by
  rcases mutator_root hZ hm hs t op with hn | ⟨m2, _, n', h1, h2, _, _, hr⟩
  · rw [hn] at h; cases h
  · rw [h1] at h; cases h; exact ⟨n', h2, hr⟩

end

section
variable {H : Hash} {src : Src} {p n : Node}

theorem virt_reads_fail_or_agree (hsv : Serves H src p) (hs : Summ H p n) (t : Ty) :
    (readValM H src t (.virt (p.root H)) = none ∨ readValM H src t (.virt (p.root H)) = readVal H t n) ∧
    (∀ i, readElemM H src t (.virt (p.root H)) i = none ∨
      readElemM H src t (.virt (p.root H)) i = readElem H t n i) ∧
    (viewLenM H src t (.virt (p.root H)) = none ∨ viewLenM H src t (.virt (p.root H)) = viewLen H t n) ∧
    (∀ a b, sliceReadM H src t (.virt (p.root H)) a b = none ∨
      sliceReadM H src t (.virt (p.root H)) a b = sliceRead H t n a b) :=
  reads_fail_or_agree (mat_virt hsv) hs t

/-- the virtual node may as well be addressed by the root of the COMPLETE tree (the roots are equal) -/
theorem virt_reads_fail_or_agree' (hsv : Serves H src p) (hs : Summ H p n) (t : Ty) :
    (readValM H src t (.virt (n.root H)) = none ∨ readValM H src t (.virt (n.root H)) = readVal H t n) ∧
    (∀ i, readElemM H src t (.virt (n.root H)) i = none ∨
      readElemM H src t (.virt (n.root H)) i = readElem H t n i) ∧
    (viewLenM H src t (.virt (n.root H)) = none ∨ viewLenM H src t (.virt (n.root H)) = viewLen H t n) ∧
    (∀ a b, sliceReadM H src t (.virt (n.root H)) a b = none ∨
      sliceReadM H src t (.virt (n.root H)) a b = sliceRead H t n a b) := by
  rw [← hs.root_eq]; exact virt_reads_fail_or_agree hsv hs t

theorem virt_ser_fail_or_agree (hsv : Serves H src p) (hs : Summ H p n) (t : Ty) :
    serTreeM H src t (.virt (p.root H)) = none ∨ serTreeM H src t (.virt (p.root H)) = serTree H t n :=
  ser_fail_or_agree (mat_virt hsv) hs t

theorem virt_export_fail_or_agree (hsv : Serves H src p) (hs : Summ H p n) (t : Ty) (v : Val)
    (hwf : t.wf = true) (hlim : ReprBasics.limitsOk t = true) (hr : Impl.Repr H t v n) :
    toObjTreeM H src t (.virt (p.root H)) = none ∨
      toObjTreeM H src t (.virt (p.root H)) = some (Obj.toObj t v) :=
  export_fail_or_agree (mat_virt hsv) hs t v hwf hlim hr

theorem virt_mutator_root_partial (hsv : Serves H src p) (hs : Summ H p n) (t : Ty) (op : Op)
    (hop : ∀ v, op ≠ .append v) :
    applyM H src t (.virt (p.root H)) op = none ∨ ∃ m' p' n', applyM H src t (.virt (p.root H)) op = some m' ∧
      Impl.apply H t n op = some n' ∧ Mat H src m' p' ∧ Summ H p' n' ∧ m'.root H = n'.root H :=
  mutator_root_partial (mat_virt hsv) hs t op hop

theorem virt_mutator_root (hZ : ZeroInj H) (hsv : Serves H src p) (hs : Summ H p n) (t : Ty) (op : Op) :
    applyM H src t (.virt (p.root H)) op = none ∨ ∃ m' p' n', applyM H src t (.virt (p.root H)) op = some m' ∧
      Impl.apply H t n op = some n' ∧ Mat H src m' p' ∧ Summ H p' n' ∧ m'.root H = n'.root H :=
  mutator_root hZ (mat_virt hsv) hs t op

end

end Rmk.VirtualPartial
