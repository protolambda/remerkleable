/-
Held views, hooks and copies (properties C05, C06, C14 at the level of the store model
`Rmk/Impl/Store.lean`).  Everything is generic in the pair hash `H`.
-/
import Rmk.Impl.Store
import Rmk.Proofs.ChunkTree
import Rmk.Proofs.Gindex
import Rmk.Proofs.Merkleize
import Rmk.Proofs.TreeLaws
namespace Rmk.StoreLaws
open Rmk Rmk.Impl

theorem pbits_diverge (d i j : Nat) (h : i % 2 ^ d ≠ j % 2 ^ d) :
    diverge (pbits d i) (pbits d j) = true := by
  induction d with
  | zero => exact absurd (by rw [Nat.pow_zero, Nat.mod_one, Nat.mod_one]) h
  | succ d ih =>
    rw [pbits, pbits, diverge]
    by_cases hb : i / 2 ^ d % 2 = j / 2 ^ d % 2
    · rw [hb, if_pos (beq_self_eq_true _)]
      exact ih fun heq => h (by rw [Nat.mod_pow_succ, Nat.mod_pow_succ, heq, hb])
    · rw [if_neg]
      intro he
      rcases Nat.mod_two_eq_zero_or_one (i / 2 ^ d) with h1 | h1 <;>
        rcases Nat.mod_two_eq_zero_or_one (j / 2 ^ d) with h2 | h2 <;>
          simp [h1, h2] at hb he

theorem setAt_eq_some {H : Hash} {e : Bool} {n n' v : Node} {i d : Nat} :
    setAt H e n i d v = some n' ↔ i < 2 ^ d ∧ setPath H e n (pbits d i) v = some n' := by
  unfold setAt
  rw [Option.ite_none_left_eq_some, ge_iff_le, Nat.not_le]

theorem getAt_setAt_same {H : Hash} {e : Bool} {n n' v : Node} {i d : Nat}
    (h : setAt H e n i d v = some n') : getAt n' i d = some v := by
  obtain ⟨hlt, h⟩ := setAt_eq_some.1 h
  rw [getAt_of_lt n' hlt]
  exact getPath_setPath_same H e n _ v n' h

theorem getAt_setAt_other {H : Hash} {n n' v : Node} {i j d : Nat}
    (h : setAt H false n i d v = some n') (hij : i ≠ j) : getAt n' j d = getAt n j d := by
  obtain ⟨hlt, h⟩ := setAt_eq_some.1 h
  by_cases hj : j < 2 ^ d
  · rw [getAt_of_lt n' hj, getAt_of_lt n hj]
    exact getPath_setPath_diverge H n _ _ v n' h
      (pbits_diverge d i j (by rwa [Nat.mod_eq_of_lt hlt, Nat.mod_eq_of_lt hj]))
  · rw [getAt_of_ge n' (Nat.le_of_not_lt hj), getAt_of_ge n (Nat.le_of_not_lt hj)]

theorem getRight_setAt_left {H : Hash} {n n' v : Node} {i d : Nat}
    (h : setAt H false n i (d + 1) v = some n') (hi : i < 2 ^ d) : getRight n' = getRight n := by
  obtain ⟨_, h⟩ := setAt_eq_some.1 h
  rw [ChunkTreeLemmas.pbits_succ_lt hi] at h
  cases n with
  | leaf c => cases h
  | pair l r =>
    obtain ⟨l', _, rfl⟩ := Option.map_eq_some_iff.1 h
    rfl

theorem listLength_setAt_left {H : Hash} {n n' v : Node} {i d : Nat}
    (h : setAt H false n i (d + 1) v = some n') (hi : i < 2 ^ d) :
    listLength H n' = listLength H n := by
  unfold listLength
  rw [getRight_setAt_left h hi]

/-- The side condition on a hook key that the view-level laws need: for a list parent the key is
    below the *limit* of the list type.  (`childOf` and `setChildNode` only compare the key with the
    length *read from the backing*; for a malformed backing whose length node exceeds the limit, a key
    `≥ 2^contents_depth` addresses the length node itself — exactly as `List.get`/`List.set` do in the
    library — and then the laws below are false, see `childOf_setChildNode_needs_keyOk`.) -/
def KeyOk : Ty → Nat → Prop
  | .list _ lim, key => key < lim
  | _, _ => True

/-- `key` is a child position of the type (for a union, the only child is the value, key `0`) -/
def InRange : Ty → Nat → Prop
  | .vector _ len, key => key < len
  | .list _ lim, key => key < lim
  | .container fs, key => key < fs.length
  | .union _ _, key => key = 0
  | _, _ => False

theorem InRange.keyOk {t : Ty} {key : Nat} (h : InRange t key) : KeyOk t key := by
  cases t with
  | list et lim => exact h
  | _ => trivial

theorem keyOk_of_length_le {H : Hash} {t : Ty} {n : Node} {key : Nat}
    (hlen : ∀ et lim len, t = .list et lim → listLength H n = some len → len ≤ lim)
    (hc : (childOf H t n key).isSome) : KeyOk t key := by
  cases t <;> simp only [KeyOk]
  rename_i et lim
  unfold childOf at hc
  cases hl : listLength H n with
  | none => simp [hl] at hc
  | some len =>
    have := hlen et lim len rfl hl
    simp only [hl] at hc
    split at hc
    · simp at hc
    · rename_i hcond
      simp at hcond
      omega

theorem list_key_lt {et : Ty} {lim key : Nat} (hb : et.isBasic = false) (hk : key < lim) :
    key < 2 ^ getDepth (chunkLen et lim) := by
  have := two_pow_getDepth (chunkLen et lim)
  simp [chunkLen, hb] at this ⊢
  omega

/-- depth below the backing node at which the children of a vector, list or container sit -/
def childDepth : Ty → Nat
  | .vector et len => getDepth (chunkLen et len)
  | .list et lim => getDepth (chunkLen et lim) + 1
  | .container fs => getDepth fs.length
  | _ => 0

/-- type of the child at `key` of a vector, list (given the stored length) or container; `none`
    where `childOf` raises before it reads the tree -/
def childTy : Ty → Option Nat → Nat → Option Ty
  | .vector et len, _, key => if et.isBasic || key ≥ len then none else some et
  | .list et _, olen, key => olen.bind fun len => if et.isBasic || key ≥ len then none else some et
  | .container fs, _, key => fs[key]?
  | _, _, _ => none

theorem childOf_eq (H : Hash) (t : Ty) (n : Node) (key : Nat) (hu : ∀ hn opts, t ≠ .union hn opts) :
    childOf H t n key =
      (childTy t (listLength H n) key).bind fun ct => (getAt n key (childDepth t)).map (ct, ·) := by
  cases t with
  | vector et len =>
    unfold childOf; simp only [childTy, childDepth]
    split <;> rfl
  | list et lim =>
    unfold childOf; simp only [childTy, childDepth]
    cases listLength H n with
    | none => rfl
    | some len =>
      simp only [Option.bind_some]
      split <;> rfl
  | container fs =>
    unfold childOf; simp only [childTy, childDepth]
    cases fs[key]? <;> rfl
  | union hn opts => exact absurd rfl (hu hn opts)
  | _ => rfl

theorem setAt_of_setChildNode {H : Hash} {t : Ty} {n n' c : Node} {key : Nat}
    (hu : ∀ hn opts, t ≠ .union hn opts) (hs : setChildNode H t n key c = some n') :
    setAt H false n key (childDepth t) c = some n' := by
  unfold setChildNode at hs
  cases t with
  | vector et len => exact (Option.ite_none_left_eq_some.1 hs).2
  | list et lim =>
    dsimp only at hs
    cases hl : listLength H n with
    | none => rw [hl] at hs; cases hs
    | some len => rw [hl] at hs; exact (Option.ite_none_left_eq_some.1 hs).2
  | container fs => exact (Option.ite_none_left_eq_some.1 hs).2
  | union hn opts => exact absurd rfl (hu hn opts)
  | _ => cases hs

theorem childTy_setAt {H : Hash} {t : Ty} {n n' c : Node} {key : Nat} (hk : KeyOk t key)
    (hs : setAt H false n key (childDepth t) c = some n') (k : Nat) :
    childTy t (listLength H n') k = childTy t (listLength H n) k := by
  cases t with
  | list et lim =>
    cases hb : et.isBasic with
    | true =>
      simp only [childTy, hb, Bool.true_or, if_true]
      cases listLength H n' <;> cases listLength H n <;> rfl
    | false => rw [listLength_setAt_left hs (list_key_lt hb hk)]
  | _ => rfl

theorem childOf_setChildNode_seq (H : Hash) (t : Ty) (n n' : Node) (key : Nat) (c : Node)
    (hu : ∀ hn opts, t ≠ .union hn opts) (hk : KeyOk t key)
    (hs : setChildNode H t n key c = some n') (hc : (childOf H t n key).isSome) :
    childOf H t n' key = (childOf H t n key).map (fun x => (x.1, c)) := by
  have hset := setAt_of_setChildNode hu hs
  rw [childOf_eq H t n key hu] at hc ⊢
  rw [childOf_eq H t n' key hu, childTy_setAt hk hset, getAt_setAt_same hset]
  cases hty : childTy t (listLength H n) key with
  | none => rfl
  | some ct =>
    rw [hty] at hc
    cases hg : getAt n key (childDepth t) with
    | none => rw [hg] at hc; cases hc
    | some x => rfl

/-- After the hook ran (`setChildNode`), the parent's child at `key` IS the node written.
    Without `hk` the statement is false for a list parent whose backing claims a length above the
    limit (`childOf_setChildNode_needs_keyOk` below), hence the side condition `KeyOk t key`
    (trivial unless `t` is a list; for a list: `key < limit`).
    `childOf_setChildNode_partial` is the unconditional statement for all non-list parents and
    `childOf_setChildNode_of_length_le` replaces `KeyOk` by "the stored length is within the limit". -/
theorem childOf_setChildNode (H : Hash) (t : Ty) (n n' : Node) (key : Nat) (c : Node)
    (hk : KeyOk t key)
    (hs : setChildNode H t n key c = some n') (hc : (childOf H t n key).isSome) :
    childOf H t n' key = (childOf H t n key).map (fun x => (x.1, c)) := by
  cases t with
  | union hasNone opts =>
    cases n with
    | leaf x => cases hs
    | pair l r =>
      cases hs
      unfold childOf; simp only [getLeft, getRight]
      split
      · rfl
      · cases Spec.optType hasNone opts (readLen H r) <;> rfl
  | _ => exact childOf_setChildNode_seq H _ n n' key c (fun _ _ => nofun) hk hs hc

/-- no side condition for any parent type except lists
    (for `t = .list et lim` it needs `key < lim`, see `childOf_setChildNode`) -/
theorem childOf_setChildNode_partial (H : Hash) (t : Ty) (n n' : Node) (key : Nat) (c : Node)
    (hnl : ∀ et lim, t ≠ .list et lim)
    (hs : setChildNode H t n key c = some n') (hc : (childOf H t n key).isSome) :
    childOf H t n' key = (childOf H t n key).map (fun x => (x.1, c)) := by
  apply childOf_setChildNode H t n n' key c _ hs hc
  cases t <;> simp only [KeyOk]
  exact absurd rfl (hnl _ _)

/-- no side condition for parents whose stored list length respects the limit -/
theorem childOf_setChildNode_of_length_le (H : Hash) (t : Ty) (n n' : Node) (key : Nat) (c : Node)
    (hlen : ∀ et lim len, t = .list et lim → listLength H n = some len → len ≤ lim)
    (hs : setChildNode H t n key c = some n') (hc : (childOf H t n key).isSome) :
    childOf H t n' key = (childOf H t n key).map (fun x => (x.1, c)) :=
  childOf_setChildNode H t n n' key c (keyOk_of_length_le hlen hc) hs hc

/-- The side condition `KeyOk` of `childOf_setChildNode` cannot be dropped: a list of limit 1 whose
    backing claims length 2 (malformed) has the length node itself as "element 1"; writing a zero leaf
    there sets the length to 0 and the element is gone.  (Same behaviour as the library.) -/
theorem childOf_setChildNode_needs_keyOk (H : Hash) :
    ∃ (t : Ty) (n n' : Node) (key : Nat) (c : Node),
      setChildNode H t n key c = some n' ∧ (childOf H t n key).isSome ∧
      childOf H t n' key ≠ (childOf H t n key).map (fun x => (x.1, c)) := by
  refine ⟨.list (.container [.bool]) 1, .pair (.leaf zeroChunk) (.leaf (2 :: zeros 31)),
    .pair (.leaf zeroChunk) (.leaf zeroChunk), 1, .leaf zeroChunk, ?_, ?_, ?_⟩
  · rfl
  · rfl
  · intro h
    cases h

/-- every hook `(p, key)` of view `r` points to an existing view with a smaller reference -/
def Valid (s : Store) : Prop :=
  ∀ r o, s[r]? = some o → ∀ p key, o.hook = some (p, key) → p < r ∧ p < s.length

/-- the hook of view `r` (`none` also when `r` is not a reference of the store) -/
def hookOf (s : Store) (r : Nat) : Option (Nat × Nat) := (s[r]?).bind (·.hook)

/-- `r` and its ancestors, following the hooks for at most `fuel` views -/
def chainAux (s : Store) : Nat → Nat → List Nat
  | 0, _ => []
  | fuel+1, r =>
    match hookOf s r with
    | none => [r]
    | some (p, _) => r :: chainAux s fuel p

/-- in a `Valid` store hooks point to smaller references, so the fuel `r + 1` is never exhausted -/
def chain (s : Store) (r : Nat) : List Nat := chainAux s (r + 1) r

theorem getElem?_lt_length {s : Store} {r : Nat} {o : VObj} (h : s[r]? = some o) : r < s.length :=
  let ⟨hlt, _⟩ := List.getElem?_eq_some_iff.1 h
  hlt

theorem getElem?_snoc_cases {α : Type} {s : List α} {x y : α} {q : Nat} (h : (s ++ [x])[q]? = some y) :
    (q < s.length ∧ s[q]? = some y) ∨ (q = s.length ∧ y = x) := by
  rcases Nat.lt_trichotomy q s.length with hq | hq | hq
  · rw [List.getElem?_append_left hq] at h
    exact .inl ⟨hq, h⟩
  · subst hq
    rw [List.getElem?_concat_length] at h
    exact .inr ⟨rfl, (Option.some.inj h).symm⟩
  · rw [List.getElem?_eq_none (by rw [List.length_append]; exact hq)] at h
    cases h

theorem hookOf_eq_some {s : Store} {r p key : Nat} (h : hookOf s r = some (p, key)) :
    ∃ o, s[r]? = some o ∧ o.hook = some (p, key) :=
  Option.bind_eq_some_iff.1 h

theorem hookOf_of_get {s : Store} {r : Nat} {o : VObj} (h : s[r]? = some o) : hookOf s r = o.hook := by
  simp [hookOf, h]

theorem Valid.hook_lt {s : Store} (hv : Valid s) {r p key : Nat} (h : hookOf s r = some (p, key)) :
    p < r := by
  obtain ⟨o, ho, hh⟩ := hookOf_eq_some h
  exact (hv r o ho p key hh).1

theorem Valid.snoc {s : Store} {x : VObj} (hv : Valid s)
    (hx : ∀ p k, x.hook = some (p, k) → p < s.length) : Valid (s ++ [x]) := by
  intro q oq hq p k hk
  rw [List.length_append, List.length_singleton]
  rcases getElem?_snoc_cases hq with ⟨_, hq⟩ | ⟨rfl, rfl⟩
  · have := hv q oq hq p k hk
    exact ⟨this.1, Nat.lt_succ_of_lt this.2⟩
  · have := hx p k hk
    exact ⟨this, Nat.lt_succ_of_lt this⟩

theorem valid_singleton (o : VObj) (ho : o.hook = none) : Valid [o] := by
  refine Valid.snoc (s := []) (fun r _ hr => ?_) fun p k hk => ?_
  · rw [List.getElem?_nil] at hr
    cases hr
  · rw [ho] at hk
    cases hk

theorem chainAux_congr {s1 s : Store} (h : ∀ q, hookOf s1 q = hookOf s q) (fuel r : Nat) :
    chainAux s1 fuel r = chainAux s fuel r := by
  induction fuel generalizing r with
  | zero => rfl
  | succ f ih =>
    simp only [chainAux, h r]
    cases hookOf s r with
    | none => rfl
    | some pk => simp [ih]

theorem mem_chainAux_succ {s : Store} {fuel r q : Nat} :
    q ∈ chainAux s (fuel + 1) r ↔
      q = r ∨ ∃ p key, hookOf s r = some (p, key) ∧ q ∈ chainAux s fuel p := by
  rw [chainAux]
  cases hookOf s r with
  | none => simp
  | some pk =>
    obtain ⟨p, key⟩ := pk
    simp

theorem mem_chainAux_self {s : Store} {fuel r : Nat} : r ∈ chainAux s (fuel + 1) r :=
  mem_chainAux_succ.2 (.inl rfl)

theorem mem_chain_self (s : Store) (r : Nat) : r ∈ chain s r := mem_chainAux_self

theorem chainAux_le {s : Store} (hv : Valid s) (fuel r q : Nat) (h : q ∈ chainAux s fuel r) : q ≤ r := by
  induction fuel generalizing r with
  | zero => cases h
  | succ f ih =>
    rcases mem_chainAux_succ.1 h with rfl | ⟨p, key, hh, h⟩
    · exact Nat.le_refl q
    · exact Nat.le_trans (ih p h) (Nat.le_of_lt (hv.hook_lt hh))

theorem chain_le {s : Store} (hv : Valid s) {r q : Nat} (h : q ∈ chain s r) : q ≤ r :=
  chainAux_le hv _ r q h

theorem chainAux_fuel {s : Store} (hv : Valid s) (f f' r : Nat) (hf : r < f) (hf' : r < f') :
    chainAux s f r = chainAux s f' r := by
  induction f generalizing f' r with
  | zero => cases hf
  | succ f ih =>
    cases f' with
    | zero => cases hf'
    | succ f' =>
      unfold chainAux
      cases hh : hookOf s r with
      | none => rfl
      | some pk =>
        have hlt := hv.hook_lt hh
        exact congrArg (r :: ·) (ih f' pk.1 (Nat.lt_of_lt_of_le hlt (Nat.le_of_lt_succ hf))
          (Nat.lt_of_lt_of_le hlt (Nat.le_of_lt_succ hf')))

theorem chain_eq {s : Store} (hv : Valid s) (r : Nat) :
    chain s r = r :: (match hookOf s r with | none => [] | some (p, _) => chain s p) := by
  unfold chain
  rw [chainAux]
  cases hh : hookOf s r with
  | none => rfl
  | some pk =>
    exact congrArg (r :: ·) (chainAux_fuel hv r (pk.1 + 1) pk.1 (hv.hook_lt hh) (Nat.lt_succ_self _))

theorem mem_chain_iff {s : Store} (hv : Valid s) {r q : Nat} :
    q ∈ chain s r ↔ q = r ∨ ∃ p key, hookOf s r = some (p, key) ∧ q ∈ chain s p := by
  unfold chain
  rw [mem_chainAux_succ]
  refine or_congr_right (exists_congr fun p => exists_congr fun key => and_congr_right fun hh => ?_)
  rw [chainAux_fuel hv r (p + 1) p (hv.hook_lt hh) (Nat.lt_succ_self p)]

theorem chainAux_subset_chain {s : Store} (hv : Valid s) (fuel r q : Nat) (h : q ∈ chainAux s fuel r) :
    q ∈ chain s r := by
  induction fuel generalizing r with
  | zero => cases h
  | succ f ih =>
    rcases mem_chainAux_succ.1 h with rfl | ⟨p, key, hh, h⟩
    · exact mem_chain_self s q
    · exact (mem_chain_iff hv).2 (.inr ⟨p, key, hh, ih p h⟩)

/-- the parent named by the hook of a view on the chain is on the chain too (so the consecutive pairs
    of `chain s r` are exactly the pairs (view on the chain, parent named by its hook)) -/
theorem chain_parent_mem {s : Store} (hv : Valid s) {r c p key : Nat} (hc : c ∈ chain s r)
    (hh : hookOf s c = some (p, key)) : p ∈ chain s r := by
  induction r using Nat.strongRecOn with
  | ind r ih =>
    refine (mem_chain_iff hv).2 (.inr ?_)
    rcases (mem_chain_iff hv).1 hc with rfl | ⟨p', key', hr, hc⟩
    · exact ⟨p, key, hh, mem_chain_self s p⟩
    · exact ⟨p', key', hr, ih p' (hv.hook_lt hr) hc⟩

theorem chain_ge_of_root {s : Store} (hv : Valid s) {k d : Nat} (hk : hookOf s k = none)
    (hd : k ∈ chain s d) : ∀ q ∈ chain s d, k ≤ q := by
  induction d using Nat.strongRecOn with
  | ind d ih =>
    intro q hq
    rcases (mem_chain_iff hv).1 hd with rfl | ⟨p, key, hr, hkp⟩
    · rcases (mem_chain_iff hv).1 hq with rfl | ⟨p, key, hr, _⟩
      · exact Nat.le_refl _
      · rw [hk] at hr
        cases hr
    · rcases (mem_chain_iff hv).1 hq with rfl | ⟨p', key', hr', hq⟩
      · exact Nat.le_of_lt (Nat.lt_of_le_of_lt (chain_le hv hkp) (hv.hook_lt hr))
      · rw [hr] at hr'
        cases hr'
        exact ih p (hv.hook_lt hr) hkp q hq

theorem map_getElem?_set {α β : Type} (g : α → β) {s : List α} {r : Nat} {o x : α}
    (h : s[r]? = some o) (hg : g x = g o) (q : Nat) : ((s.set r x)[q]?).map g = (s[q]?).map g := by
  by_cases hq : r = q
  · subst hq
    rw [List.getElem?_set_self (List.getElem?_eq_some_iff.1 h).1, h]
    exact congrArg some hg
  · rw [List.getElem?_set_ne hq]

theorem hookOf_of_map {s s' : Store} (h : ∀ q : Nat, (s'[q]?).map VObj.hook = (s[q]?).map VObj.hook) (q : Nat) :
    hookOf s' q = hookOf s q := by
  have e : ∀ s : Store, hookOf s q = ((s[q]?).map VObj.hook).join := fun s => by
    unfold hookOf
    cases s[q]? <;> rfl
  rw [e, e, h q]

theorem hookOf_set_backing (s : Store) (r : Nat) (o : VObj) (n : Node) (h : s[r]? = some o) (q : Nat) :
    hookOf (s.set r { o with backing := n }) q = hookOf s q :=
  hookOf_of_map (map_getElem?_set VObj.hook (x := { o with backing := n }) h rfl) q

theorem Valid.of_hooks {s s1 : Store} (hv : Valid s) (hl : s1.length = s.length)
    (hh : ∀ q, hookOf s1 q = hookOf s q) : Valid s1 := by
  intro r o ho p key hk
  have h1 : hookOf s r = some (p, key) := by rw [← hh r, hookOf_of_get ho, hk]
  obtain ⟨o', ho', hk'⟩ := hookOf_eq_some h1
  exact hl ▸ hv r o' ho' p key hk'

/-- a write to a view above `p` commutes with `set_backing` at `p`: the hook chain of `p` only goes
    down, so it never reads or writes `r` -/
theorem setBacking_set_above (H : Hash) (f : Nat) (s : Store) (r : Nat) (x : VObj) (p : Nat) (pn : Node)
    (hv : Valid s) (hp : p < r) :
    setBacking H f (s.set r x) p pn = (setBacking H f s p pn).map (·.set r x) := by
  induction f generalizing s p pn with
  | zero => rfl
  | succ f ih =>
    have hne : r ≠ p := Nat.ne_of_gt hp
    unfold setBacking
    rw [List.getElem?_set_ne hne]
    cases hpo : s[p]? with
    | none => rfl
    | some po =>
      obtain ⟨pty, pbk, phook⟩ := po
      dsimp only
      rw [List.set_comm _ _ hne]
      cases phook with
      | none => rfl
      | some qk =>
        obtain ⟨q, key⟩ := qk
        dsimp only
        have hq : q < r := Nat.lt_trans (hv p _ hpo q key rfl).1 hp
        have hv' : Valid (s.set p ⟨pty, pn, some (q, key)⟩) :=
          hv.of_hooks (List.length_set ..) (hookOf_set_backing s p _ pn hpo)
        rw [List.getElem?_set_ne (Nat.ne_of_gt hq)]
        cases (s.set p ⟨pty, pn, some (q, key)⟩)[q]? with
        | none => rfl
        | some qo =>
          dsimp only
          cases setChildNode H qo.ty qo.backing key pn with
          | none => rfl
          | some qn => exact ih _ q qn hv' hq

theorem setBacking_succ_some {H : Hash} {fuel : Nat} {s : Store} {r : Nat} {n : Node} {s' : Store}
    (h : setBacking H (fuel + 1) s r n = some s') :
    ∃ o, s[r]? = some o ∧
      ((o.hook = none ∧ s' = s.set r { o with backing := n }) ∨
       (∃ p key po pn, o.hook = some (p, key) ∧ (s.set r { o with backing := n })[p]? = some po ∧
          setChildNode H po.ty po.backing key n = some pn ∧
          setBacking H fuel (s.set r { o with backing := n }) p pn = some s')) := by
  unfold setBacking at h
  split at h
  · cases h
  · rename_i o hr
    refine ⟨o, hr, ?_⟩
    dsimp only at h
    split at h
    · exact .inl ⟨‹_›, (Option.some.inj h).symm⟩
    · split at h
      · cases h
      · split at h
        · cases h
        · exact .inr ⟨_, _, _, _, ‹_›, ‹_›, ‹_›, h⟩

theorem setBacking_succ_none (H : Hash) (fuel : Nat) {s : Store} {r : Nat} {o : VObj} (n : Node)
    (hr : s[r]? = some o) (hk : o.hook = none) :
    setBacking H (fuel + 1) s r n = some (s.set r { o with backing := n }) := by
  simp only [setBacking, hr, hk]

/-- one step at a view with a hook, in a valid store: the chain above runs on the store as it was,
    and the write to `r` commutes to the end -/
theorem setBacking_succ_hook (H : Hash) (fuel : Nat) {s : Store} {r p key : Nat} {o po : VObj}
    {n pn : Node} (hv : Valid s) (hr : s[r]? = some o) (hk : o.hook = some (p, key))
    (hp : s[p]? = some po) (hsc : setChildNode H po.ty po.backing key n = some pn) :
    setBacking H (fuel + 1) s r n
      = (setBacking H fuel s p pn).map (·.set r { o with backing := n }) := by
  have hlt : p < r := (hv r o hr p key hk).1
  simp only [setBacking, hr, hk, List.getElem?_set_ne (Nat.ne_of_gt hlt), hp, hsc]
  exact setBacking_set_above H fuel s r _ p pn hv hlt

theorem setBacking_frame_aux (H : Hash) (fuel : Nat) (s : Store) (r : Nat) (n : Node) (s' : Store)
    (h : setBacking H fuel s r n = some s') :
    s'.length = s.length ∧
    (∀ q : Nat, q ∉ chainAux s fuel r → s'[q]? = s[q]?) ∧
    (∀ q : Nat, (s'[q]?).map VObj.ty = (s[q]?).map VObj.ty) ∧
    (∀ q : Nat, (s'[q]?).map VObj.hook = (s[q]?).map VObj.hook) := by
  induction fuel generalizing s r n with
  | zero => cases h
  | succ f ih =>
    obtain ⟨o, hr, hcase⟩ := setBacking_succ_some h
    have hty1 := map_getElem?_set VObj.ty (x := { o with backing := n }) hr rfl
    have hhk1 := map_getElem?_set VObj.hook (x := { o with backing := n }) hr rfl
    rw [chainAux, hookOf_of_get hr]
    rcases hcase with ⟨hk, rfl⟩ | ⟨p, key, po, pn, hk, _, _, hrec⟩
    · refine ⟨List.length_set .., ?_, hty1, hhk1⟩
      intro q hq
      rw [hk, List.mem_singleton] at hq
      exact List.getElem?_set_ne fun e => hq e.symm
    · obtain ⟨hl, hfr, hty, hhk⟩ := ih _ p pn hrec
      refine ⟨hl.trans (List.length_set ..), ?_, fun q => (hty q).trans (hty1 q),
        fun q => (hhk q).trans (hhk1 q)⟩
      intro q hq
      rw [hk, List.mem_cons, not_or, ← chainAux_congr (hookOf_set_backing s r o n hr)] at hq
      rw [hfr q hq.2]
      exact List.getElem?_set_ne fun e => hq.1 e.symm

/-- `set_backing` in a valid store: the views not on `chain s r` are unchanged; number of views,
    types and hooks are unchanged. -/
theorem setBacking_frame (H : Hash) (fuel : Nat) (s : Store) (r : Nat) (n : Node) (s' : Store)
    (hv : Valid s) (h : setBacking H fuel s r n = some s') :
    s'.length = s.length ∧
    (∀ q : Nat, q ∉ chain s r → s'[q]? = s[q]?) ∧
    (∀ q : Nat, (s'[q]?).map VObj.ty = (s[q]?).map VObj.ty) ∧
    (∀ q : Nat, (s'[q]?).map VObj.hook = (s[q]?).map VObj.hook) := by
  obtain ⟨hl, hfr, hty, hhk⟩ := setBacking_frame_aux H fuel s r n s' h
  exact ⟨hl, fun q hq => hfr q (fun hc => hq (chainAux_subset_chain hv fuel r q hc)), hty, hhk⟩

theorem setBacking_valid (H : Hash) (fuel : Nat) (s : Store) (r : Nat) (n : Node) (s' : Store)
    (hv : Valid s) (h : setBacking H fuel s r n = some s') : Valid s' := by
  obtain ⟨hl, _, _, hhk⟩ := setBacking_frame_aux H fuel s r n s' h
  exact hv.of_hooks hl (hookOf_of_map hhk)

/-- The propagation theorem (C05), for any fuel (`step` uses `r + 1`, and `chainAux s (r + 1) r` is
    `chain s r`).  After `set_backing(n)` on view `r` of a valid store, view `r` holds `n`, and for
    every view `c` on the hook chain of `r` with hook `(p, key)` — i.e. every consecutive pair `(c, p)`
    of the chain, see `chain_parent_mem` — the enclosing view `p` now has, at `key`, exactly the
    (updated) backing of `c`, provided `c` was the child of `p` at `key` before (with the type of `c`)
    and the key is below the limit when `p` is a list (`KeyOk`). -/
theorem setBacking_propagates_aux (H : Hash) (fuel : Nat) (s : Store) (r : Nat) (n : Node) (s' : Store)
    (hv : Valid s) (h : setBacking H fuel s r n = some s') :
    (∃ o, s[r]? = some o ∧ s'[r]? = some { o with backing := n }) ∧
    (∀ c ∈ chainAux s fuel r, ∀ (oc : VObj) (p key : Nat) (po : VObj) (x : Node),
      s[c]? = some oc → oc.hook = some (p, key) → s[p]? = some po → KeyOk po.ty key →
      childOf H po.ty po.backing key = some (oc.ty, x) →
      ∃ oc' po', s'[c]? = some oc' ∧ s'[p]? = some po' ∧ oc'.ty = oc.ty ∧ po'.ty = po.ty ∧
        childOf H po'.ty po'.backing key = some (oc'.ty, oc'.backing)) := by
  induction fuel generalizing s r n s' with
  | zero => cases h
  | succ f ih =>
    obtain ⟨o, hr, hcase⟩ := setBacking_succ_some h
    have hlen := getElem?_lt_length hr
    rw [chainAux, hookOf_of_get hr]
    rcases hcase with ⟨hk, rfl⟩ | ⟨p0, key0, po0, pn, hk, hp0, hsc, hrec⟩
    · refine ⟨⟨o, hr, List.getElem?_set_self hlen⟩, ?_⟩
      intro c hc oc p key po x hoc hoch
      rw [hk] at hc
      rw [List.mem_singleton.1 hc, hr] at hoc
      cases hoc
      rw [hk] at hoch
      cases hoch
    · have hlt0 : p0 < r := (hv r o hr p0 key0 hk).1
      -- the recursive call does not see the write to `r`: run it on `s` and redo the write after
      rw [List.getElem?_set_ne (Nat.ne_of_gt hlt0)] at hp0
      rw [setBacking_set_above H f s r _ p0 pn hv hlt0] at hrec
      obtain ⟨s'', hrec', rfl⟩ := Option.map_eq_some_iff.1 hrec
      obtain ⟨⟨o', ho', hs'p0⟩, hchain⟩ := ih s p0 pn s'' hv hrec'
      rw [hp0] at ho'
      cases ho'
      have hl := (setBacking_frame_aux H f s p0 pn s'' hrec').1
      have hs'r : (s''.set r { o with backing := n })[r]? = some { o with backing := n } :=
        List.getElem?_set_self (hl ▸ hlen)
      have hbelow : ∀ q, q < r → (s''.set r { o with backing := n })[q]? = s''[q]? :=
        fun q hq => List.getElem?_set_ne (Nat.ne_of_gt hq)
      refine ⟨⟨o, hr, hs'r⟩, ?_⟩
      intro c hc oc p key po x hoc hoch hpo hkey hchild
      rw [hk] at hc
      rcases List.mem_cons.1 hc with rfl | hc
      · rw [hr] at hoc
        cases hoc
        rw [hk] at hoch
        cases hoch
        rw [hp0] at hpo
        cases hpo
        refine ⟨_, _, hs'r, (hbelow _ hlt0).trans hs'p0, rfl, rfl, ?_⟩
        have h1 := childOf_setChildNode H _ _ pn _ n hkey hsc (by rw [hchild]; rfl)
        rw [h1, hchild]
        rfl
      · have hcr : c < r := Nat.lt_of_le_of_lt (chainAux_le hv f p0 c hc) hlt0
        have hpc : p < c := (hv c oc hoc p key hoch).1
        rw [hbelow c hcr, hbelow p (Nat.lt_trans hpc hcr)]
        exact hchain c hc oc p key po x hoc hoch hpo hkey hchild

theorem step_copy_eq (H : Hash) (s : Store) (r : Nat) (s1 : Store) (h : step H s (.copy r) = some s1) :
    ∃ o, s[r]? = some o ∧ s1 = s ++ [⟨o.ty, o.backing, none⟩] := by
  unfold step at h
  cases hr : s[r]? with
  | none => simp [hr] at h
  | some o =>
    simp only [hr, Option.some.injEq] at h
    exact ⟨o, rfl, h.symm⟩

theorem step_child_eq (H : Hash) (s : Store) (r key : Nat) (s1 : Store)
    (h : step H s (.child r key) = some s1) :
    ∃ o ct cn, s[r]? = some o ∧ childOf H o.ty o.backing key = some (ct, cn) ∧
      s1 = s ++ [⟨ct, cn, some (r, key)⟩] := by
  unfold step at h
  cases hr : s[r]? with
  | none => simp [hr] at h
  | some o =>
    simp only [hr] at h
    obtain ⟨⟨ct, cn⟩, hc, rfl⟩ := Option.map_eq_some_iff.1 h
    exact ⟨o, ct, cn, rfl, hc, rfl⟩

theorem step_mutate (H : Hash) (s : Store) (r : Nat) (op : Op) :
    step H s (.mutate r op) =
      (s[r]?).bind fun o => (apply H o.ty o.backing op).bind (setBacking H (r + 1) s r) := by
  rw [step]
  cases s[r]? with
  | none => rfl
  | some o =>
    dsimp only [Option.bind_some]
    cases apply H o.ty o.backing op <;> rfl

theorem step_mutate_eq {H : Hash} {s : Store} {r : Nat} {op : Op} {s' : Store} :
    step H s (.mutate r op) = some s' ↔
      ∃ o n, s[r]? = some o ∧ apply H o.ty o.backing op = some n ∧
        setBacking H (r + 1) s r n = some s' := by
  simp only [step_mutate, Option.bind_eq_some_iff, exists_and_left]

/-- `step` raises exactly when the reference is dangling, the mutation raises, or a hook on the way
    up raises -/
theorem step_mutate_eq_none_iff (H : Hash) (s : Store) (r : Nat) (op : Op) :
    step H s (.mutate r op) = none ↔
      s[r]? = none ∨ ∃ o, s[r]? = some o ∧
        (apply H o.ty o.backing op = none ∨
         ∃ n, apply H o.ty o.backing op = some n ∧ setBacking H (r + 1) s r n = none) := by
  simp only [step]
  cases s[r]? with
  | none => simp only [reduceCtorEq, false_and, exists_const, or_false]
  | some o =>
    cases ha : apply H o.ty o.backing op with
    | none => simp only [ha, reduceCtorEq, Option.some.injEq, exists_eq_left', false_and, exists_const, or_false, or_true]
    | some n => simp only [ha, reduceCtorEq, Option.some.injEq, exists_eq_left', false_or]

/-- if the view operation raises, so does the step: the caller keeps the old store, no partial
    update is observable -/
theorem step_mutate_apply_none (H : Hash) (s : Store) (r : Nat) (op : Op) (o : VObj)
    (hr : s[r]? = some o) (ha : apply H o.ty o.backing op = none) :
    step H s (.mutate r op) = none :=
  (step_mutate_eq_none_iff H s r op).2 (.inr ⟨o, hr, .inl ha⟩)

/-- a successful mutation is all-or-nothing also for the hooks: every view keeps its type and hook,
    the number of views is unchanged -/
theorem step_mutate_shape (H : Hash) (s : Store) (r : Nat) (op : Op) (s' : Store)
    (h : step H s (.mutate r op) = some s') :
    s'.length = s.length ∧
    (∀ q : Nat, q ∉ chain s r → s'[q]? = s[q]?) ∧
    (∀ q : Nat, (s'[q]?).map VObj.ty = (s[q]?).map VObj.ty) ∧
    (∀ q : Nat, (s'[q]?).map VObj.hook = (s[q]?).map VObj.hook) := by
  obtain ⟨o, n, _, _, hsb⟩ := step_mutate_eq.1 h
  exact setBacking_frame_aux H (r + 1) s r n s' hsb

theorem step_valid (H : Hash) (s : Store) (op : SOp) (s' : Store)
    (hv : Valid s) (h : step H s op = some s') : Valid s' := by
  cases op with
  | child r key =>
    obtain ⟨o, ct, cn, hr, _, rfl⟩ := step_child_eq H s r key s' h
    refine hv.snoc fun p k hk => ?_
    cases hk
    exact getElem?_lt_length hr
  | mutate r op =>
    obtain ⟨hl, _, _, hhk⟩ := step_mutate_shape H s r op s' h
    exact hv.of_hooks hl (hookOf_of_map hhk)
  | copy r =>
    obtain ⟨o, _, rfl⟩ := step_copy_eq H s r s' h
    exact hv.snoc fun p k hk => nomatch hk

theorem mutate_frame (H : Hash) (s : Store) (r : Nat) (op : Op) (s' : Store)
    (h : step H s (.mutate r op) = some s') (q : Nat) (hq : q ∉ chain s r) : s'[q]? = s[q]? :=
  (step_mutate_shape H s r op s' h).2.1 q hq

/-- (C06) The view made by `copy` has the type and backing of the original and no hook.
    A mutation through the copy changes only the copy; a mutation through any other view (the
    original included) never changes the copy. -/
theorem copy_independent (H : Hash) (s : Store) (r : Nat) (s1 : Store)
    (hv : Valid s) (h : step H s (.copy r) = some s1) :
    ∃ o, s[r]? = some o ∧ s1.length = s.length + 1 ∧
      s1[s.length]? = some ⟨o.ty, o.backing, none⟩ ∧
      (∀ q : Nat, q < s.length → s1[q]? = s[q]?) ∧
      (∀ op s2, step H s1 (.mutate s.length op) = some s2 →
        ∀ q : Nat, q ≠ s.length → s2[q]? = s1[q]?) ∧
      (∀ q op s2, q ≠ s.length → step H s1 (.mutate q op) = some s2 →
        s2[s.length]? = s1[s.length]?) := by
  have hv1 := step_valid H s _ s1 hv h
  obtain ⟨o, hr, rfl⟩ := step_copy_eq H s r s1 h
  have hk : (s ++ [(⟨o.ty, o.backing, none⟩ : VObj)])[s.length]? = some ⟨o.ty, o.backing, none⟩ :=
    List.getElem?_concat_length
  refine ⟨o, hr, List.length_append, hk, fun q hq => List.getElem?_append_left hq, ?_, ?_⟩
  · intro op s2 h2 q hq
    refine mutate_frame H _ _ op s2 h2 q fun hmem => hq ?_
    -- the copy has no hook: its chain is itself
    rcases (mem_chain_iff hv1).1 hmem with e | ⟨p, key, hh, _⟩
    · exact e
    · rw [hookOf_of_get hk] at hh
      cases hh
  · intro q op s2 hq h2
    refine mutate_frame H _ _ op s2 h2 _ fun hmem => ?_
    -- `q` is a view of the store, so `q ≤ s.length`; chains only go down
    obtain ⟨oq, _, hoq, _⟩ := step_mutate_eq.1 h2
    have hlt : q < s.length + 1 := by
      rw [← List.length_singleton, ← List.length_append]
      exact getElem?_lt_length hoq
    exact hq (Nat.le_antisymm (Nat.le_of_lt_succ hlt) (chain_le hv1 hmem))

/-- the view an operation goes through -/
def opRef : SOp → Nat
  | .child r _ => r
  | .mutate r _ => r
  | .copy r => r

def run (H : Hash) : Store → List SOp → Option Store
  | s, [] => some s
  | s, op :: ops => (step H s op).bind fun s' => run H s' ops

/-- no operation of the sequence goes through `k` or a view obtained (transitively) from `k` -/
def Avoids (H : Hash) (k : Nat) : Store → List SOp → Prop
  | _, [] => True
  | s, op :: ops => k ∉ chain s (opRef op) ∧ ∀ s', step H s op = some s' → Avoids H k s' ops

/-- every operation of the sequence goes through `k` or a view obtained (transitively) from `k` -/
def Within (H : Hash) (k : Nat) : Store → List SOp → Prop
  | _, [] => True
  | s, op :: ops => k ∈ chain s (opRef op) ∧ ∀ s', step H s op = some s' → Within H k s' ops

theorem step_frame (H : Hash) (s : Store) (op : SOp) (s' : Store) (h : step H s op = some s') :
    s.length ≤ s'.length ∧
    (∀ q : Nat, q < s.length → hookOf s' q = hookOf s q) ∧
    (∀ q : Nat, q < s.length → q ∉ chain s (opRef op) → s'[q]? = s[q]?) := by
  have snoc : ∀ x : VObj, s.length ≤ (s ++ [x]).length ∧
      (∀ q : Nat, q < s.length → hookOf (s ++ [x]) q = hookOf s q) ∧
      (∀ q : Nat, q < s.length → q ∉ chain s (opRef op) → (s ++ [x])[q]? = s[q]?) := fun x =>
    ⟨List.length_append ▸ Nat.le_add_right _ _,
      fun q hq => congrArg (·.bind (·.hook)) (List.getElem?_append_left hq),
      fun q hq _ => List.getElem?_append_left hq⟩
  cases op with
  | child r key =>
    obtain ⟨o, ct, cn, _, _, rfl⟩ := step_child_eq H s r key s' h
    exact snoc _
  | mutate r op =>
    obtain ⟨hl, hfr, _, hhk⟩ := step_mutate_shape H s r op s' h
    exact ⟨Nat.le_of_eq hl.symm, fun q _ => hookOf_of_map hhk q, fun q _ hq => hfr q hq⟩
  | copy r =>
    obtain ⟨o, _, rfl⟩ := step_copy_eq H s r s' h
    exact snoc _

theorem run_avoids_unchanged (H : Hash) (k : Nat) (ops : List SOp) (s s2 : Store)
    (hv : Valid s) (hk : k < s.length) (ha : Avoids H k s ops) (h : run H s ops = some s2) :
    s2[k]? = s[k]? := by
  induction ops generalizing s with
  | nil => cases h; rfl
  | cons op ops ih =>
    obtain ⟨s', hs, h⟩ := Option.bind_eq_some_iff.1 h
    obtain ⟨hl, _, hfr⟩ := step_frame H s op s' hs
    rw [ih s' (step_valid H s op s' hv hs) (Nat.lt_of_lt_of_le hk hl) (ha.2 s' hs) h]
    exact hfr k hk ha.1

/-- operations through a hook-less view `k` (e.g. a copy) and its descendants never change a view
    with a smaller reference (in particular: any view that existed when the copy was made) -/
theorem run_within_unchanged (H : Hash) (k : Nat) (ops : List SOp) (s s2 : Store)
    (hv : Valid s) (hk : k < s.length) (hroot : hookOf s k = none)
    (hw : Within H k s ops) (h : run H s ops = some s2) :
    ∀ q : Nat, q < k → s2[q]? = s[q]? := by
  induction ops generalizing s with
  | nil => cases h; exact fun q _ => rfl
  | cons op ops ih =>
    obtain ⟨s', hs, h⟩ := Option.bind_eq_some_iff.1 h
    obtain ⟨hl, hhk, hfr⟩ := step_frame H s op s' hs
    intro q hq
    rw [ih s' (step_valid H s op s' hv hs) (Nat.lt_of_lt_of_le hk hl) ((hhk k hk).trans hroot)
      (hw.2 s' hs) h q hq]
    exact hfr q (Nat.lt_trans hq hk) fun hmem =>
      Nat.not_le_of_lt hq (chain_ge_of_root hv hroot hw.1 q hmem)

section Example

/-- a toy pair hash (the theorems above hold for every `H`) -/
def toyH : Hash := fun a b => a ++ b

/-- `Container(xs: List[uint8, 64], y: uint8)` -/
def exTy : Ty := .container [.list (.uint 1) 64, .uint 1]

/-- build the container `(xs = [1], y = 7)`, obtain the view of field `xs`, append `2` through it,
    then read the whole container back through the parent view -/
def exRun : Option (Val × Val × Bool) := do
  let b ← construct toyH exTy (.seq [.seq [.num 1], .num 7])
  let s0 : Store := [⟨exTy, b, none⟩]
  let s1 ← step toyH s0 (.child 0 0)
  let s2 ← step toyH s1 (.mutate 1 (.append (.num 2)))
  let parent ← s2[0]?
  let child ← s2[1]?
  let pv ← readVal toyH exTy parent.backing
  let cv ← readVal toyH child.ty child.backing
  let b' ← construct toyH exTy (.seq [.seq [.num 1, .num 2], .num 7])
  pure (pv, cv, parent.backing.root toyH == b'.root toyH && parent.backing.root toyH != b.root toyH)

example : (exRun == some (.seq [.seq [.num 1, .num 2], .num 7], .seq [.num 1, .num 2], true)) = true := by
  decide +kernel

end Example

end Rmk.StoreLaws
