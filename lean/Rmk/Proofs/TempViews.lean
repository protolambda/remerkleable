/-
Mutations through TEMPORARY views (`view.a.b.<op>`, `Path.navigate_view`): the driver runs the child / child / mutate
steps of the (guarded) store model and then drops the views those steps created. Views never refer to later views
(`Valid`), so the remaining store is valid, and its views are exactly those the full run left at these positions.
-/
import Rmk.Proofs.StoreLaws
namespace Rmk.TempViews
open Rmk Rmk.Impl Rmk.StoreLaws

theorem take_valid (s : Store) (k : Nat) (hv : Valid s) : Valid (s.take k) := by
  intro r o hr p key hk
  rw [List.getElem?_take] at hr
  obtain ⟨hrk, hr⟩ := Option.ite_none_right_eq_some.mp hr
  obtain ⟨h1, h2⟩ := hv r o hr p key hk
  rw [List.length_take]
  exact ⟨h1, Nat.lt_min.mpr ⟨Nat.lt_trans h1 hrk, h2⟩⟩

theorem take_get (s : Store) (k r : Nat) (h : r < k) : (s.take k)[r]? = s[r]? := by
  rw [List.getElem?_take, if_pos h]

end Rmk.TempViews
