/-
Prefixes of typed paths: the generalized index of a PREFIX of a path is an ancestor of the
generalized index of the whole path; sibling keys after a common prefix address different nodes
exactly when they address different chunks.
-/
import Rmk.Proofs.PathGindex
import Rmk.Proofs.TreeLaws
namespace Rmk.PathPrefix
open Rmk Rmk.Impl

/-- the type at the end of a key path (`navigate_type` iterated); `none` = a key is rejected,
    `some none` = the path ends in the `None` option of a union -/
def typeAt : Option Ty → List Key → Option (Option Ty)
  | ot, [] => some ot
  | none, _ :: _ => none
  | some t, k :: ks =>
    match navigateType t k with
    | none => none
    | some t' => typeAt t' ks

theorem walk_typeAt (keys : List Key) :
    ∀ (root : Nat) (ot : Option Ty) (g : Nat) (ot' : Option Ty),
      walk root ot keys = some (g, ot') → typeAt ot keys = some ot' := by
  induction keys with
  | nil =>
    intro root ot g ot' h
    rw [walk_nil] at h
    cases h
    cases ot <;> rfl
  | cons k ks ih =>
    intro root ot g ot' h
    obtain ⟨t, s, t1, rfl, _, hn, hw⟩ := walk_cons_some h
    rw [typeAt, hn]
    exact ih _ _ _ _ hw

/-- a valid path splits at every position: the prefix is valid, and the whole path is the walk of
    the rest from the gindex and type reached by the prefix -/
theorem walk_split {t : Ty} {keys : List Key} {g : Nat} (h : pathGindex t keys = some g) (k : Nat) :
    ∃ g' ot' ot'', walk 1 (some t) (keys.take k) = some (g', ot') ∧
      walk g' ot' (keys.drop k) = some (g, ot'') := by
  obtain ⟨ot'', h⟩ := pathGindex_eq_some.1 h
  rw [← List.take_append_drop k keys, walk_append, Option.bind_eq_some_iff] at h
  obtain ⟨p, h1, h2⟩ := h
  exact ⟨p.1, p.2, ot'', h1, h2⟩

theorem pathGindex_ne_zero {t : Ty} {keys : List Key} {g : Nat} (h : pathGindex t keys = some g) :
    g ≠ 0 := by
  obtain ⟨ot, hw⟩ := pathGindex_eq_some.1 h
  exact (walk_gbits keys 1 (some t) g ot (by decide) hw).1

theorem pathGindex_take {t : Ty} {keys : List Key} {g : Nat} (h : Impl.pathGindex t keys = some g) :
    ∀ k, ∃ g', Impl.pathGindex t (keys.take k) = some g' := by
  intro k
  obtain ⟨g', ot', _, hw, _⟩ := walk_split h k
  exact ⟨g', pathGindex_eq_some.2 ⟨ot', hw⟩⟩

/-- the node addressed by a prefix of a path lies on the way to the node addressed by the path -/
theorem prefix_is_ancestor {t : Ty} {keys : List Key} {g g' : Nat} {k : Nat}
    (h : Impl.pathGindex t keys = some g) (h' : Impl.pathGindex t (keys.take k) = some g') :
    gbits g' <+: gbits g := by
  obtain ⟨g1, ot', ot'', hw, hw2⟩ := walk_split h k
  obtain ⟨_, hw'⟩ := pathGindex_eq_some.1 h'
  cases hw.symm.trans hw'
  obtain ⟨_, r, hr⟩ := walk_gbits _ _ ot' g ot'' (pathGindex_ne_zero h') hw2
  exact ⟨r, hr.symm⟩

/-- for EVERY remainder `r` with `gbits g = gbits g' ++ r` -/
theorem prefix_getter {t : Ty} {keys : List Key} {g g' : Nat} {k : Nat}
    (h : Impl.pathGindex t keys = some g) (h' : Impl.pathGindex t (keys.take k) = some g')
    (r : List Bool) (hr : gbits g = gbits g' ++ r) (n : Node) :
    getter n g = (getter n g').bind (fun m => getPath m r) := by
  simp only [getter, pathGindex_ne_zero h, pathGindex_ne_zero h', if_false, hr, getPath_append]

/-- …and such a remainder exists -/
theorem prefix_getter_exists {t : Ty} {keys : List Key} {g g' : Nat} {k : Nat}
    (h : Impl.pathGindex t keys = some g) (h' : Impl.pathGindex t (keys.take k) = some g') :
    ∃ r, gbits g = gbits g' ++ r ∧
      ∀ n : Node, getter n g = (getter n g').bind (fun m => getPath m r) := by
  obtain ⟨r, hr⟩ := prefix_is_ancestor h h'
  exact ⟨r, hr.symm, prefix_getter h h' r hr.symm⟩

/-- do two keys of type `t` address the same node of the tree of `t`?  Two element indices do when
    they fall into the same chunk; ALL option indices of a union address the one value node (gindex
    2: only one option is alive at a time); `len` / `sel` address the mix-in node. -/
def sameNode (t : Ty) : Key → Key → Bool
  | .idx i, .idx j =>
    match t with
    | .union _ _ => true
    | _ => i / perChunk t == j / perChunk t
  | .len, .len => true
  | .sel, .sel => true
  | _, _ => false

theorem sameNode_idx_idx (t : Ty) (i j : Nat) :
    sameNode t (.idx i) (.idx j) = (chunkPos t i == chunkPos t j) := by
  cases t <;> rfl

theorem chunkPos_eq {t : Ty} (hu : ∀ hn opts, t ≠ .union hn opts) (i : Nat) :
    chunkPos t i = i / perChunk t := by
  cases t <;> first | rfl | exact absurd rfl (hu _ _)

/-- a position inside the contents subtree below a mix-in is not the mix-in leaf -/
theorem static_idx_ne_three {t : Ty} {i s : Nat} (h : keyToStaticGindex t (.idx i) = some s)
    (hm : hasMixIn t = true) : s ≠ 3 := by
  obtain ⟨hp, rfl⟩ := static_idx h
  rw [treeDepth, if_pos hm]
  generalize contentsDepth t = D at hp
  cases D with
  | zero => omega
  | succ D =>
    have := Nat.two_pow_pos D
    rw [Nat.pow_succ, Nat.pow_succ]
    omega

/-- One step: two valid keys of a type get the same local gindex iff they address the same node -/
theorem static_eq_iff (t : Ty) (a b : Key) (sa sb : Nat)
    (ha : keyToStaticGindex t a = some sa) (hb : keyToStaticGindex t b = some sb) :
    sa = sb ↔ sameNode t a b = true := by
  have hlen : ∀ {k}, k = Key.len ∨ k = Key.sel → ∀ {s}, keyToStaticGindex t k = some s →
      ∀ {i si}, keyToStaticGindex t (.idx i) = some si → si ≠ s := fun hk _ h _ _ hi => by
    obtain ⟨hm, rfl⟩ := static_len_sel h hk
    exact static_idx_ne_three hi hm
  cases a with
  | idx i =>
    cases b with
    | idx j =>
      rw [(static_idx ha).2, (static_idx hb).2, sameNode_idx_idx, beq_iff_eq,
        Nat.add_left_cancel_iff]
    | len => exact iff_of_false (hlen (.inl rfl) hb ha) Bool.false_ne_true
    | sel => exact iff_of_false (hlen (.inr rfl) hb ha) Bool.false_ne_true
  | len =>
    cases b with
    | idx j => exact iff_of_false (Ne.symm (hlen (.inl rfl) ha hb)) Bool.false_ne_true
    | len => exact iff_of_true (Option.some.inj (ha.symm.trans hb)) rfl
    | sel => cases t <;> cases ha <;> cases hb
  | sel =>
    cases b with
    | idx j => exact iff_of_false (Ne.symm (hlen (.inr rfl) ha hb)) Bool.false_ne_true
    | len => cases t <;> cases ha <;> cases hb
    | sel => exact iff_of_true (Option.some.inj (ha.symm.trans hb)) rfl

/-- a valid path `ks ++ [a]`: the prefix is valid and ends in a type `t'`, the key `a` has a local
    gindex `sa` in `t'`, and the gindex of the path is the concatenation -/
theorem step_split {t : Ty} {ks : List Key} {a : Key} {ga : Nat}
    (h : pathGindex t (ks ++ [a]) = some ga) :
    ∃ r t' sa, walk 1 (some t) ks = some (r, some t') ∧ keyToStaticGindex t' a = some sa ∧
      ga = concatStep r sa ∧ r ≠ 0 ∧ sa ≠ 0 := by
  obtain ⟨ot, h⟩ := pathGindex_eq_some.1 h
  rw [walk_append, Option.bind_eq_some_iff] at h
  obtain ⟨p, hw, h⟩ := h
  obtain ⟨t', sa, _, hp, hk, _, h⟩ := walk_cons_some h
  rw [walk_nil] at h
  cases h
  have hw : walk 1 (some t) ks = some (p.1, some t') := hp ▸ hw
  exact ⟨p.1, t', sa, hw, hk, rfl, (walk_gbits ks 1 (some t) _ _ (by decide) hw).1,
    keyToStaticGindex_ne_zero t' a sa hk⟩

theorem typeAt_of_valid {t : Ty} {ks : List Key} {a : Key} {ga : Nat}
    (h : Impl.pathGindex t (ks ++ [a]) = some ga) : ∃ t', typeAt (some t) ks = some (some t') := by
  obtain ⟨r, t', _, hw, _⟩ := step_split h
  exact ⟨t', walk_typeAt ks 1 (some t) r (some t') hw⟩

/-- Siblings: two keys valid after the same prefix (which ends in type `t'`) get the same
    generalized index EXACTLY when they address the same node of `t'` -/
theorem prefix_step_eq_iff {t t' : Ty} {ks : List Key} {a b : Key} {ga gb : Nat}
    (hend : typeAt (some t) ks = some (some t'))
    (ha : Impl.pathGindex t (ks ++ [a]) = some ga) (hb : Impl.pathGindex t (ks ++ [b]) = some gb) :
    ga = gb ↔ sameNode t' a b = true := by
  obtain ⟨r, t1, sa, hw1, hka, hga, hr, hsa⟩ := step_split ha
  obtain ⟨r2, t2, sb, hw2, hkb, hgb, _, hsb⟩ := step_split hb
  rw [hw1] at hw2
  simp at hw2
  obtain ⟨rfl, rfl⟩ := hw2
  have ht := walk_typeAt ks 1 (some t) r (some t1) hw1
  rw [hend] at ht
  simp at ht
  subst ht
  rw [← static_eq_iff t' a b sa sb hka hkb, hga, hgb]
  constructor
  · intro h
    have hbits : gbits (concatStep r sa) = gbits (concatStep r sb) := by rw [h]
    rw [gbits_concatStep hr hsa, gbits_concatStep hr hsb] at hbits
    exact gbits_inj hsa hsb (List.append_cancel_left hbits)
  · intro h; rw [h]

theorem prefix_injective_step {t t' : Ty} {ks : List Key} {a b : Key} {ga gb : Nat}
    (hend : typeAt (some t) ks = some (some t'))
    (ha : Impl.pathGindex t (ks ++ [a]) = some ga) (hb : Impl.pathGindex t (ks ++ [b]) = some gb)
    (hd : sameNode t' a b = false) : ga ≠ gb := by
  intro h
  rw [prefix_step_eq_iff hend ha hb, hd] at h
  cases h

/-- packed positions (and every non-union type): different chunk numbers -/
theorem sameNode_idx (t : Ty) (hu : ∀ hn opts, t ≠ .union hn opts) {i j : Nat}
    (hne : i / perChunk t ≠ j / perChunk t) : sameNode t (.idx i) (.idx j) = false := by
  rw [sameNode_idx_idx, chunkPos_eq hu, chunkPos_eq hu]
  exact beq_false_of_ne hne

/-- a type whose element / field positions each have a node of their own: different keys address
    different nodes -/
theorem sameNode_of_ne (t : Ty) (hu : ∀ hn opts, t ≠ .union hn opts) (hp : perChunk t = 1)
    {a b : Key} (hne : a ≠ b) : sameNode t a b = false := by
  cases a <;> cases b <;> first | rfl | exact absurd rfl hne | skip
  rename_i i j
  apply sameNode_idx t hu
  rw [hp, Nat.div_one, Nat.div_one]
  exact fun h => hne (congrArg Key.idx h)

/-- an element / option index never collides with the length / selector key -/
theorem sameNode_idx_len (t : Ty) (i : Nat) : sameNode t (.idx i) .len = false := rfl
theorem sameNode_idx_sel (t : Ty) (i : Nat) : sameNode t (.idx i) .sel = false := rfl

/-- Exception: all option indices of a union address the same (value) node -/
theorem sameNode_union_idx (hn : Bool) (opts : List Ty) (i j : Nat) :
    sameNode (.union hn opts) (.idx i) (.idx j) = true := rfl

theorem prefix_injective_container {t : Ty} {fs : List Ty} {ks : List Key} {a b : Key} {ga gb : Nat}
    (hend : typeAt (some t) ks = some (some (.container fs))) (hne : a ≠ b)
    (ha : Impl.pathGindex t (ks ++ [a]) = some ga) (hb : Impl.pathGindex t (ks ++ [b]) = some gb) :
    ga ≠ gb :=
  prefix_injective_step hend ha hb (sameNode_of_ne (.container fs) (fun _ _ h => nomatch h) rfl hne)

/-- `a`, `b` are element indices, or an index and `len` -/
theorem prefix_injective_list {t et : Ty} {lim : Nat} {ks : List Key} {a b : Key} {ga gb : Nat}
    (hend : typeAt (some t) ks = some (some (.list et lim))) (hnb : et.isBasic = false) (hne : a ≠ b)
    (ha : Impl.pathGindex t (ks ++ [a]) = some ga) (hb : Impl.pathGindex t (ks ++ [b]) = some gb) :
    ga ≠ gb :=
  prefix_injective_step hend ha hb
    (sameNode_of_ne (.list et lim) (fun _ _ h => nomatch h) (if_neg (Bool.eq_false_iff.1 hnb)) hne)

theorem prefix_injective_vector {t et : Ty} {n : Nat} {ks : List Key} {a b : Key} {ga gb : Nat}
    (hend : typeAt (some t) ks = some (some (.vector et n))) (hnb : et.isBasic = false) (hne : a ≠ b)
    (ha : Impl.pathGindex t (ks ++ [a]) = some ga) (hb : Impl.pathGindex t (ks ++ [b]) = some gb) :
    ga ≠ gb :=
  prefix_injective_step hend ha hb
    (sameNode_of_ne (.vector et n) (fun _ _ h => nomatch h) (if_neg (Bool.eq_false_iff.1 hnb)) hne)

/-- packed sequences (basic elements, bits, bytes): indices in different chunks -/
theorem prefix_injective_packed {t t' : Ty} {ks : List Key} {i j : Nat} {ga gb : Nat}
    (hend : typeAt (some t) ks = some (some t')) (hu : ∀ hn opts, t' ≠ .union hn opts)
    (hne : i / perChunk t' ≠ j / perChunk t')
    (ha : Impl.pathGindex t (ks ++ [.idx i]) = some ga)
    (hb : Impl.pathGindex t (ks ++ [.idx j]) = some gb) : ga ≠ gb :=
  prefix_injective_step hend ha hb (sameNode_idx t' hu hne)

/-- …and indices in the SAME chunk get the same generalized index -/
theorem prefix_same_chunk {t t' : Ty} {ks : List Key} {i j : Nat} {ga gb : Nat}
    (hend : typeAt (some t) ks = some (some t')) (heq : i / perChunk t' = j / perChunk t')
    (ha : Impl.pathGindex t (ks ++ [.idx i]) = some ga)
    (hb : Impl.pathGindex t (ks ++ [.idx j]) = some gb) : ga = gb := by
  have hpos : chunkPos t' i = chunkPos t' j := by cases t' <;> first | exact heq | rfl
  rw [prefix_step_eq_iff hend ha hb, sameNode_idx_idx, hpos]
  exact beq_self_eq_true _

/-- a union: the selector and the value are different nodes … -/
theorem prefix_injective_union_sel {t : Ty} {hn : Bool} {opts : List Ty} {ks : List Key} {i : Nat}
    {ga gb : Nat} (hend : typeAt (some t) ks = some (some (.union hn opts)))
    (ha : Impl.pathGindex t (ks ++ [.idx i]) = some ga)
    (hb : Impl.pathGindex t (ks ++ [.sel]) = some gb) : ga ≠ gb :=
  prefix_injective_step hend ha hb rfl

/-- … but two DIFFERENT option indices of a union address the SAME node (the value node, gindex 2):
    injectivity does not hold for union options. -/
theorem prefix_union_options_collide {t : Ty} {hn : Bool} {opts : List Ty} {ks : List Key}
    {i j : Nat} {ga gb : Nat} (hend : typeAt (some t) ks = some (some (.union hn opts)))
    (ha : Impl.pathGindex t (ks ++ [.idx i]) = some ga)
    (hb : Impl.pathGindex t (ks ++ [.idx j]) = some gb) : ga = gb :=
  (prefix_step_eq_iff hend ha hb).2 rfl

/-! Non-vacuity: a container with a list-of-containers field and a packed list -/

private def tEx : Ty :=
  .container [.uint 8, .list (.container [.uint 4, .uint 8, .bool]) 5, .list (.uint 2) 100,
    .union true [.uint 8]]

example : tEx.wf = true := by decide +kernel

/-- path `1 / 3 / 1` : field 1, element 3, field 1 -/
example : Impl.pathGindex tEx [.idx 1, .idx 3, .idx 1] = some 333 ∧
    Impl.pathGindex tEx ([Key.idx 1, .idx 3, .idx 1].take 2) = some 83 ∧
    Impl.pathGindex tEx ([Key.idx 1, .idx 3, .idx 1].take 1) = some 5 ∧
    gbits 5 <+: gbits 83 ∧ gbits 83 <+: gbits 333 ∧ gbits 333 = gbits 83 ++ [false, true] := by
  decide +kernel

/-- siblings: different fields / elements differ, packed elements of one chunk coincide, those of
    different chunks differ, union options coincide -/
example : typeAt (some tEx) [.idx 1] = some (some (.list (.container [.uint 4, .uint 8, .bool]) 5)) :=
  rfl
example :
    Impl.pathGindex tEx [.idx 1, .idx 3] = some 83 ∧ Impl.pathGindex tEx [.idx 1, .idx 4] = some 84 ∧
    Impl.pathGindex tEx [.idx 1, .len] = some 11 ∧
    Impl.pathGindex tEx [.idx 2, .idx 0] = some 96 ∧ Impl.pathGindex tEx [.idx 2, .idx 15] = some 96 ∧
    Impl.pathGindex tEx [.idx 2, .idx 16] = some 97 ∧
    Impl.pathGindex tEx [.idx 3, .idx 0] = some 14 ∧ Impl.pathGindex tEx [.idx 3, .idx 1] = some 14 ∧
    Impl.pathGindex tEx [.idx 3, .sel] = some 15 := by
  decide +kernel

end Rmk.PathPrefix
