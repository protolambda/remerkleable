/-
The refinement relation `Repr` (Rmk/Impl/Repr.lean): every constructor route and every default tree
lands in `Repr`; whatever tree shape represents a value has the spec root, is well typed, and reads
back (through the view API) exactly that value.  Generic in the pair hash `H`.
-/
import Rmk.Proofs.BytesLemmas
import Rmk.Proofs.ChunkTree
import Rmk.Proofs.ListRel
import Rmk.Proofs.Merkle
import Rmk.Proofs.Merkleize
import Rmk.Proofs.PackArith
import Rmk.Proofs.Packing
import Rmk.Proofs.TreeLaws
import Rmk.Proofs.TypeLemmas
namespace Rmk.ReprBasics
open Rmk Rmk.Impl Rmk.Spec
open Rmk.ChunkTreeLemmas Rmk.ConstructRoot

theorem lenNode_zero (H : Hash) : lenNode 0 = zeroNode H 0 := by
  simp [lenNode, zeroNode, chunkOfLE_32, zeroChunk]

theorem mixInNode_zero (H : Hash) (c : Node) : mixInNode c 0 = .pair c (zeroNode H 0) :=
  congrArg _ (lenNode_zero H)

theorem packInts_nil (size : Nat) : packInts size [] = [] := rfl

theorem chunkLen_nonbasic (et : Ty) (n : Nat) (hb : ¬ et.isBasic = true) : chunkLen et n = n := by
  simp [chunkLen, hb]

theorem packBytes_short (bs : List UInt8) (h0 : 0 < bs.length) (h : bs.length ≤ 32) :
    packBytes bs = [bs ++ zeros (32 - bs.length)] := by
  rw [packBytes_eq_pack, Spec.pack, bytesToChunks, groups_single h0 h]
  rfl

theorem zeroVal_basic_wt (et : Ty) (hb : et.isBasic = true) : WT et (zeroVal et) = true := by
  cases et <;> simp [Ty.isBasic] at hb <;> unfold zeroVal WT <;> simp [Nat.pow_pos]

theorem numOf_zeroVal_basic (et : Ty) (hb : et.isBasic = true) : numOf (zeroVal et) = 0 := by
  cases et <;> simp [Ty.isBasic] at hb <;> rfl

theorem packInts_replicate_zero (et : Ty) (hwf : et.wf = true) (hb : et.isBasic = true) (n : Nat) :
    packInts et.basicSize (List.replicate n 0) = List.replicate (chunkLen et n) zeroChunk := by
  rw [packInts_eq_bytesToChunks _ (basicSize_cases et hwf hb), flatMap_toLE_replicate_zero,
    DefaultNode.bytesToChunks_zeros, chunkLen_eq_chunkCount et n hwf, if_pos hb]

variable (H : Hash)

/-- what `Repr` asks of the contents subtree `c` (of depth `d`) of a vector or list of `et`s:
    the packed chunks for a basic `et`, the elements' subtrees otherwise -/
def SeqRepr (et : Ty) (d : Nat) (vs : List Val) (c : Node) : Prop :=
  if et.isBasic then
    (∀ v ∈ vs, WT et v = true) ∧
      ChunkTree H d ((packInts et.basicSize (vs.map numOf)).map .leaf) c
  else ∃ ns, AllRel (Impl.Repr H et) vs ns ∧ ChunkTree H d ns c

variable {H}

theorem repr_vector_iff {et : Ty} {len : Nat} {vs : List Val} {n : Node} :
    Impl.Repr H (.vector et len) (.seq vs) n ↔
      vs.length = len ∧ SeqRepr H et (getDepth (chunkLen et len)) vs n := by
  rw [Impl.Repr, SeqRepr]

theorem repr_list_iff {et : Ty} {lim : Nat} {vs : List Val} {n : Node} :
    Impl.Repr H (.list et lim) (.seq vs) n ↔
      vs.length ≤ lim ∧ ∃ c, n = mixInNode c vs.length ∧
        SeqRepr H et (getDepth (chunkLen et lim)) vs c := by
  unfold Impl.Repr SeqRepr
  exact Iff.rfl

theorem seqRepr_nil (et : Ty) (d : Nat) : SeqRepr H et d [] (zeroNode H d) := by
  unfold SeqRepr
  split
  · exact ⟨fun _ h => (nomatch h), ct_zero H d⟩
  · exact ⟨[], trivial, ct_zero H d⟩

theorem seqRepr_basic {et : Ty} {d : Nat} {vs : List Val} {c : Node}
    (hb : et.isBasic = true) : SeqRepr H et d vs c ↔ (∀ v ∈ vs, WT et v = true) ∧
      ChunkTree H d ((packInts et.basicSize (vs.map numOf)).map .leaf) c := by
  unfold SeqRepr
  rw [if_pos hb]

theorem seqRepr_nonbasic {et : Ty} {d : Nat} {vs : List Val} {c : Node}
    (hb : ¬ et.isBasic = true) :
    SeqRepr H et d vs c ↔ ∃ ns, AllRel (Impl.Repr H et) vs ns ∧ ChunkTree H d ns c := by
  unfold SeqRepr
  rw [if_neg hb]

theorem seqRepr_get {et : Ty} {d : Nat} {vs : List Val} {c : Node}
    (h : SeqRepr H et d vs c) (hu : (!et.isBasic) = true) {i : Nat} (hi : i < vs.length) :
    ¬ et.isBasic = true ∧ ∃ m, getAt c i d = some m ∧ Impl.Repr H et vs[i] m := by
  have hb : ¬ et.isBasic = true := by simpa using hu
  rw [SeqRepr, if_neg hb] at h
  obtain ⟨ns, hall, hct⟩ := h
  have hi' : i < ns.length := allRel_length hall ▸ hi
  exact ⟨hb, _, ct_get hct hi', allRel_get hall i hi hi'⟩

theorem seqRepr_wt {et : Ty} {d : Nat} {vs : List Val} {c : Node} (h : SeqRepr H et d vs c)
    (ih : ∀ v ∈ vs, ∀ n, Impl.Repr H et v n → WT et v = true) : ∀ v ∈ vs, WT et v = true := by
  unfold SeqRepr at h
  split at h
  · exact h.1
  · obtain ⟨ns, hall, _⟩ := h
    exact allRel_forall_left hall ih

/-- root of the contents of a vector (`k` its length) or list (`k` its limit) of `et`s -/
theorem seqRepr_root {et : Ty} {vs : List Val} {c : Node} (k : Nat) (hwf : et.wf = true)
    (h : SeqRepr H et (getDepth (chunkLen et k)) vs c)
    (ih : ∀ v ∈ vs, ∀ n, Impl.Repr H et v n → n.root H = htr H et v) :
    c.root H =
      if et.isBasic then
        merkleize H (pack (vs.flatMap fun v => serialize et v))
          (depthFor ((k * et.basicSize + 31) / 32))
      else merkleize H (vs.map fun v => htr H et v) (depthFor k) := by
  unfold SeqRepr at h
  rw [chunkLen_eq_chunkCount et k hwf] at h
  split at h
  · next hb =>
    rw [if_pos hb, ct_root h.2, map_root_map_leaf, packInts_eq_pack et vs hb hwf h.1]
    rfl
  · next hb =>
    obtain ⟨ns, hall, hct⟩ := h
    rw [if_neg hb, ct_root hct, allRel_map_eq (·.root H) (htr H et) hall ih]
    rfl

variable (H)

mutual
/-- only well-typed values are represented (no well-formedness hypothesis needed) -/
theorem repr_wt (t : Ty) (v : Val) (n : Node) (h : Impl.Repr H t v n) : WT t v = true := by
  -- `Repr t v n` is `False` unless `v` has the constructor of `t`, and its first component is what `WT` tests
  cases t with
  | uint nb =>
    cases v with
    | num x => exact decide_eq_true h.1
    | _ => exact h.elim
  | bool =>
    cases v with
    | num x => exact decide_eq_true h.1
    | _ => exact h.elim
  | bitvector len =>
    cases v with
    | bits bs => exact beq_iff_eq.2 h.1
    | _ => exact h.elim
  | bitlist lim =>
    cases v with
    | bits bs => exact decide_eq_true h.1
    | _ => exact h.elim
  | bytevector len =>
    cases v with
    | bytes bs => exact beq_iff_eq.2 h.1
    | _ => exact h.elim
  | bytelist lim =>
    cases v with
    | bytes bs => exact decide_eq_true h.1
    | _ => exact h.elim
  | vector et len =>
    cases v with
    | seq vs =>
      obtain ⟨hlen, h⟩ := repr_vector_iff.1 h
      unfold WT
      rw [Bool.and_eq_true, beq_iff_eq, List.all_eq_true]
      exact ⟨hlen, seqRepr_wt h fun w _ m hr => repr_wt et w m hr⟩
    | _ => exact h.elim
  | list et lim =>
    cases v with
    | seq vs =>
      obtain ⟨hlen, c, _, h⟩ := repr_list_iff.1 h
      unfold WT
      rw [Bool.and_eq_true, decide_eq_true_eq, List.all_eq_true]
      exact ⟨hlen, seqRepr_wt h fun w _ m hr => repr_wt et w m hr⟩
    | _ => exact h.elim
  | container fs =>
    cases v with
    | seq vs =>
      obtain ⟨ns, hf, _⟩ := h
      exact reprFields_wt fs vs ns hf
    | _ => exact h.elim
  | union hasNone opts =>
    cases v with
    | un sel v =>
      obtain ⟨_, c, _, h⟩ := h
      by_cases hc : (hasNone && sel == 0) = true
      · rw [if_pos hc] at h
        unfold WT
        simp only [hc, h.1, if_true]
      · rw [if_neg hc] at h
        unfold WT
        simp only [hc]
        exact reprOpt_wt opts _ v c h
    | _ => exact h.elim

theorem reprFields_wt (fs : List Ty) (vs : List Val) (ns : List Node)
    (h : ReprFields H fs vs ns) : WTs fs vs = true := by
  match fs, vs, ns, h with
  | [], [], [], _ => rfl
  | t :: ts, v :: vs, n :: ns, h =>
    unfold WTs
    rw [repr_wt t v n h.1, reprFields_wt ts vs ns h.2]
    rfl

theorem reprOpt_wt (opts : List Ty) (k : Nat) (v : Val) (n : Node) (h : ReprOpt H opts k v n) :
    WTopt opts k v = true := by
  match opts, k, h with
  | t :: _, 0, h => exact repr_wt t v n h
  | _ :: ts, k + 1, h => exact reprOpt_wt ts k v n h
end

theorem reprFields_length {H : Hash} : ∀ {fs : List Ty} {vs : List Val} {ns : List Node},
    ReprFields H fs vs ns → vs.length = fs.length ∧ ns.length = fs.length
  | [], [], [], _ => ⟨rfl, rfl⟩
  | _ :: ts, _ :: vs, _ :: ns, h => by
    have := reprFields_length (fs := ts) (vs := vs) (ns := ns) h.2
    simp [this.1, this.2]

/-- the field nodes are found at positions `k, k+1, …`: head and tail -/
theorem getAt_cons_shift {n m : Node} {ms : List Node} {depth k : Nat}
    (hget : ∀ i, i < (m :: ms).length → getAt n (k + i) depth = (m :: ms)[i]?) :
    getAt n k depth = some m ∧ ∀ i, i < ms.length → getAt n (k + 1 + i) depth = ms[i]? :=
  ⟨hget 0 (Nat.zero_lt_succ _), fun i hi => by
    rw [Nat.add_assoc, Nat.add_comm 1 i]
    exact hget (i + 1) (Nat.succ_lt_succ hi)⟩

theorem reprFields_get {H : Hash} : ∀ {fs : List Ty} {vs : List Val} {ns : List Node},
    ReprFields H fs vs ns → ∀ (i : Nat) (ft : Ty) (x : Val), fs[i]? = some ft → vs[i]? = some x →
      ∃ hi : i < ns.length, Impl.Repr H ft x ns[i]
  | _ :: _, _ :: _, _ :: _, h, 0, _, _, rfl, rfl => ⟨Nat.succ_pos _, h.1⟩
  | _ :: ts, _ :: vs, _ :: ns, h, i + 1, ft, x, hf, hv =>
    let ⟨hi, hr⟩ := reprFields_get (fs := ts) (vs := vs) (ns := ns) h.2 i ft x hf hv
    ⟨Nat.succ_lt_succ hi, hr⟩

mutual
/-- Every tree shape that represents `v` has the spec root -/
theorem repr_root (t : Ty) (v : Val) (n : Node) (hwf : t.wf = true) (h : Impl.Repr H t v n) :
    n.root H = Spec.htr H t v := by
  -- the contents are a `ChunkTree` of the packed value, so their root is `merkleize` of the chunks (`ct_root`);
  -- the list types add the length mix-in (`mixInNode_root`)
  cases t with
  | uint nb =>
    cases v with
    | num x => rw [h.2]; rfl
    | _ => exact h.elim
  | bool =>
    cases v with
    | num x =>
      obtain ⟨hx, rfl⟩ := h
      unfold htr
      rw [Node.root, chunkOfLE, toLE_succ, Nat.mod_eq_of_lt (by omega)]
      rfl
    | _ => exact h.elim
  | bitvector len =>
    cases v with
    | bits bs =>
      rw [ct_root h.2, map_root_map_leaf]
      rfl
    | _ => exact h.elim
  | bitlist lim =>
    cases v with
    | bits bs =>
      obtain ⟨_, c, rfl, hct⟩ := h
      rw [mixInNode_root, ct_root hct, map_root_map_leaf]
      rfl
    | _ => exact h.elim
  | bytevector len =>
    cases v with
    | bytes bs =>
      rw [ct_root h.2, map_root_map_leaf, packBytes_eq_pack]
      rfl
    | _ => exact h.elim
  | bytelist lim =>
    cases v with
    | bytes bs =>
      obtain ⟨_, c, rfl, hct⟩ := h
      rw [mixInNode_root, ct_root hct, map_root_map_leaf, packBytes_eq_pack]
      rfl
    | _ => exact h.elim
  | vector et len =>
    cases v with
    | seq vs =>
      have hwf := (Ty.wf_vector hwf).2
      rw [htr]
      exact seqRepr_root len hwf (repr_vector_iff.1 h).2 fun w _ m hr => repr_root et w m hwf hr
    | _ => exact h.elim
  | list et lim =>
    cases v with
    | seq vs =>
      have hwf := Ty.wf_list hwf
      obtain ⟨_, c, rfl, hs⟩ := repr_list_iff.1 h
      unfold htr
      rw [mixInNode_root, seqRepr_root lim hwf hs fun w _ m hr => repr_root et w m hwf hr]
      split <;> rfl
    | _ => exact h.elim
  | container fs =>
    cases v with
    | seq vs =>
      obtain ⟨ns, hf, hct⟩ := h
      rw [ct_root hct, reprFields_root fs vs ns (Ty.wf_container hwf).2 hf]
      rfl
    | _ => exact h.elim
  | union hasNone opts =>
    cases v with
    | un sel v =>
      obtain ⟨_, c, rfl, h⟩ := h
      unfold htr
      rw [Node.root, lenNode_root, mixIn]
      by_cases hc : (hasNone && sel == 0) = true
      · rw [if_pos hc] at h ⊢
        rw [h.2]
        rfl
      · rw [if_neg hc] at h ⊢
        rw [reprOpt_root opts _ v c (Ty.wf_union hwf).2 h]
    | _ => exact h.elim

theorem reprFields_root (fs : List Ty) (vs : List Val) (ns : List Node)
    (hwf : Ty.wfList fs = true) (h : ReprFields H fs vs ns) :
    ns.map (·.root H) = Spec.htrFields H fs vs := by
  match fs, vs, ns, h with
  | [], [], [], _ => rfl
  | t :: ts, v :: vs, n :: ns, h =>
    have hwf := Ty.wfList_cons hwf
    rw [List.map_cons, htrFields, repr_root t v n hwf.1 h.1, reprFields_root ts vs ns hwf.2 h.2]

theorem reprOpt_root (opts : List Ty) (k : Nat) (v : Val) (n : Node)
    (hwf : Ty.wfList opts = true) (h : ReprOpt H opts k v n) :
    n.root H = Spec.htrOpt H opts k v := by
  match opts, k, h with
  | t :: _, 0, h => exact repr_root t v n (Ty.wfList_cons hwf).1 h
  | _ :: ts, k + 1, h => exact reprOpt_root ts k v n (Ty.wfList_cons hwf).2 h
end

theorem defaultNodes_cons_some {t : Ty} {ts : List Ty} {ms : List Node}
    (h : defaultNodes H (t :: ts) = some ms) :
    ∃ n ns, ms = n :: ns ∧ defaultNode H t = some n ∧ defaultNodes H ts = some ns := by
  unfold defaultNodes at h
  split at h
  · next n ns h1 h2 => exact ⟨n, ns, (Option.some.inj h).symm, h1, h2⟩
  · cases h

mutual
theorem default_repr (t : Ty) (n : Node) (hwf : t.wf = true)
    (h : Impl.defaultNode H t = some n) : Impl.Repr H t (Spec.zeroVal t) n := by
  -- zeros pack to zero chunks, and `fillToLength` of one node is a chunk tree of its copies (`ct_fillToLength`);
  -- the list types start empty, as the zero summary (`ct_zero`) with length 0 mixed in
  cases t with
  | uint nb =>
    cases h
    have hnb : nb ≤ 32 := by
      have := basicSize_cases (.uint nb) hwf rfl
      rw [Ty.basicSize] at this
      omega
    refine ⟨Nat.pow_pos (by decide), ?_⟩
    rw [chunkOfLE, toLE_zero, DefaultNode.padRight_zeros _ _ hnb]
    rfl
  | bool =>
    cases h
    exact ⟨by decide, rfl⟩
  | bitvector len =>
    refine ⟨List.length_replicate .., ?_⟩
    rw [packBits_eq_pack, DefaultNode.pack_bits_zero, List.map_replicate]
    exact ct_fillToLength h
  | bitlist lim =>
    cases h
    exact ⟨Nat.zero_le _, _, (mixInNode_zero H _).symm, ct_zero H _⟩
  | bytevector len =>
    refine ⟨zeros_length _, ?_⟩
    rw [packBytes_eq_pack, DefaultNode.pack_zeros, List.map_replicate]
    exact ct_fillToLength h
  | bytelist lim =>
    cases h
    exact ⟨Nat.zero_le _, _, (mixInNode_zero H _).symm, ct_zero H _⟩
  | vector et len =>
    have hwf := (Ty.wf_vector hwf).2
    refine repr_vector_iff.2 ⟨List.length_replicate .., ?_⟩
    unfold SeqRepr
    unfold defaultNode at h
    split at h
    · next hb =>
      rw [if_pos hb, List.map_replicate, numOf_zeroVal_basic et hb,
        packInts_replicate_zero et hwf hb, List.map_replicate]
      exact ⟨fun w hw => List.eq_of_mem_replicate hw ▸ zeroVal_basic_wt et hb, ct_fillToLength h⟩
    · next hb =>
      rw [if_neg hb, chunkLen_nonbasic et len hb]
      split at h
      · next e he =>
        exact ⟨_, allRel_replicate len (default_repr et e hwf he), ct_fillToLength h⟩
      · cases h
  | list et lim =>
    cases h
    exact repr_list_iff.2 ⟨Nat.zero_le _, _, (mixInNode_zero H _).symm, seqRepr_nil et _⟩
  | container fs =>
    unfold defaultNode at h
    split at h
    · next ns hns => exact ⟨ns, defaultNodes_repr fs ns (Ty.wf_container hwf).2 hns, ct_fill h⟩
    · cases h
  | union hasNone opts =>
    have hw := Ty.wf_union hwf
    have hlen : 0 < opts.length := List.length_pos_iff.mpr hw.1
    cases hasNone with
    | true =>
      cases h
      exact ⟨Nat.lt_of_lt_of_le Nat.one_pos (Nat.le_add_right 1 _), _, (mixInNode_zero H _).symm, rfl, rfl⟩
    | false =>
      unfold defaultNode at h
      split at h
      · next c hc =>
        cases h
        exact ⟨by simpa [optCount] using hlen, c, (mixInNode_zero H _).symm,
          defaultNodeHead_repr opts c hw.2 hc⟩
      · cases h

theorem defaultNodes_repr (fs : List Ty) (ns : List Node) (hwf : Ty.wfList fs = true)
    (h : Impl.defaultNodes H fs = some ns) : ReprFields H fs (Spec.zeroVals fs) ns := by
  cases fs with
  | nil =>
    cases h
    trivial
  | cons t ts =>
    obtain ⟨m, ms, rfl, h1, h2⟩ := defaultNodes_cons_some H h
    have hwf := Ty.wfList_cons hwf
    exact ⟨default_repr t m hwf.1 h1, defaultNodes_repr ts ms hwf.2 h2⟩

theorem defaultNodeHead_repr (opts : List Ty) (c : Node) (hwf : Ty.wfList opts = true)
    (h : Impl.defaultNodeHead H opts = some c) : ReprOpt H opts 0 (Spec.zeroValHead opts) c := by
  cases opts with
  | nil => cases h
  | cons t ts => exact default_repr t c (Ty.wfList_cons hwf).1 h
end

theorem constructFields_nil_some {vs : List Val} {ms : List Node}
    (h : constructFields H [] vs = some ms) : vs = [] ∧ ms = [] := by
  cases vs with
  | nil => exact ⟨rfl, (Option.some.inj h).symm⟩
  | cons => cases h

theorem constructFields_cons_some {t : Ty} {ts : List Ty} {vs : List Val} {ms : List Node}
    (h : constructFields H (t :: ts) vs = some ms) :
    ∃ v vs' n ns, vs = v :: vs' ∧ ms = n :: ns ∧ construct H t v = some n ∧
      constructFields H ts vs' = some ns := by
  cases vs with
  | nil => cases h
  | cons v vs' =>
    unfold constructFields at h
    split at h
    · next n ns h1 h2 => exact ⟨v, vs', n, ns, rfl, (Option.some.inj h).symm, h1, h2⟩
    · cases h

variable {H} in
/-- the contents built by the vector and list constructors, given that the elements' trees
    represent them -/
theorem seqRepr_of_allSome {et : Ty} {d : Nat} {vs : List Val} {ns : List Node} {c : Node}
    (hns : allSome (vs.map fun v => construct H et v) = some ns)
    (ih : ∀ v ∈ vs, ∀ n, construct H et v = some n → Impl.Repr H et v n)
    (hct : ChunkTree H d
      (if et.isBasic then (packInts et.basicSize (vs.map numOf)).map .leaf else ns) c) :
    SeqRepr H et d vs c := by
  have hall := allRel_of_allSome _ vs ns hns ih
  unfold SeqRepr
  split
  · next hb =>
    rw [if_pos hb] at hct
    exact ⟨allRel_forall_left hall fun w _ m hr => repr_wt H et w m hr, hct⟩
  · next hb =>
    rw [if_neg hb] at hct
    exact ⟨ns, hall, hct⟩

mutual
theorem construct_repr (t : Ty) (v : Val) (n : Node) (hwf : t.wf = true)
    (h : Impl.construct H t v = some n) : Impl.Repr H t v n := by
  -- the guards of `construct` are the side conditions of `Repr`, and the tree it fills is a chunk tree of the
  -- packed contents (`ct_fill`); the shortcut routes (empty bit list, byte vector of one chunk) are separate cases
  cases t with
  | uint nb =>
    cases v with
    | num x =>
      unfold construct at h
      simp only [Option.ite_none_right_eq_some, Option.some.injEq] at h
      exact ⟨h.1, h.2.symm⟩
    | _ => cases h
  | bool =>
    cases v with
    | num x =>
      unfold construct at h
      simp only [Option.ite_none_right_eq_some, Option.some.injEq] at h
      exact ⟨h.1, h.2.symm⟩
    | _ => cases h
  | bitvector len =>
    cases v with
    | bits bs =>
      unfold construct at h
      simp only [Option.ite_none_left_eq_some, bne_iff_ne, ne_eq, Decidable.not_not] at h
      exact ⟨h.1, ct_fill h.2⟩
    | _ => cases h
  | bitlist lim =>
    cases v with
    | bits bs =>
      unfold construct at h
      simp only [Option.ite_none_left_eq_some] at h
      obtain ⟨hlen, h⟩ := h
      split at h
      · next h0 =>
        cases List.eq_nil_of_length_eq_zero h0
        exact default_repr H (.bitlist lim) n hwf h
      · obtain ⟨c, hc, rfl⟩ := Option.map_eq_some_iff.1 h
        exact ⟨Nat.le_of_not_gt hlen, c, rfl, ct_fill hc⟩
    | _ => cases h
  | bytevector len =>
    cases v with
    | bytes bs =>
      unfold construct at h
      simp only [Option.ite_none_left_eq_some, bne_iff_ne, ne_eq, Decidable.not_not] at h
      obtain ⟨hlen, h⟩ := h
      refine ⟨hlen, ?_⟩
      split at h
      · next hle =>
        cases h
        have hpos : 0 < len := of_decide_eq_true hwf
        have h1 : (len + 31) / 32 = 1 := by omega
        rw [h1, getDepth_one, packBytes_short bs (hlen ▸ hpos) hle]
        exact ct_singleton H _
      · exact ct_fill h
    | _ => cases h
  | bytelist lim =>
    cases v with
    | bytes bs =>
      unfold construct at h
      simp only [Option.ite_none_left_eq_some] at h
      obtain ⟨c, hc, rfl⟩ := Option.map_eq_some_iff.1 h.2
      exact ⟨Nat.le_of_not_gt h.1, c, rfl, ct_fill hc⟩
    | _ => cases h
  | vector et len =>
    cases v with
    | seq vs =>
      unfold construct at h
      simp only [Option.ite_none_left_eq_some, bne_iff_ne, ne_eq, Decidable.not_not] at h
      obtain ⟨hlen, _, h⟩ := h
      split at h
      · cases h
      · next ns hns =>
        exact repr_vector_iff.2 ⟨hlen, seqRepr_of_allSome hns
          (fun w _ m hm => construct_repr et w m (Ty.wf_vector hwf).2 hm) (ct_fill h)⟩
    | _ => cases h
  | list et lim =>
    cases v with
    | seq vs =>
      unfold construct at h
      split at h
      · next h0 =>
        cases List.eq_nil_of_length_eq_zero h0
        exact default_repr H (.list et lim) n hwf h
      · rw [Option.ite_none_left_eq_some] at h
        obtain ⟨hlen, h⟩ := h
        split at h
        · cases h
        · next ns hns =>
          obtain ⟨c, hc, rfl⟩ := Option.map_eq_some_iff.1 h
          exact repr_list_iff.2 ⟨Nat.le_of_not_gt hlen, c, rfl, seqRepr_of_allSome hns
            (fun w _ m hm => construct_repr et w m (Ty.wf_list hwf) hm) (ct_fill hc)⟩
    | _ => cases h
  | container fs =>
    cases v with
    | seq vs =>
      unfold construct at h
      split at h
      · cases h
      · next ns hns => exact ⟨ns, constructFields_repr fs vs ns (Ty.wf_container hwf).2 hns, ct_fill h⟩
    | _ => cases h
  | union hasNone opts =>
    cases v with
    | un sel v =>
      unfold construct at h
      simp only [Option.ite_none_left_eq_some] at h
      obtain ⟨hsel, h⟩ := h
      refine ⟨Nat.lt_of_not_ge hsel, ?_⟩
      by_cases hc : (hasNone && sel == 0) = true
      · rw [if_pos hc] at h
        simp only [if_pos hc]
        obtain ⟨-, rfl⟩ : hasNone = true ∧ sel = 0 := by simpa using hc
        cases v with
        | none =>
          cases h
          exact ⟨_, rfl, rfl, rfl⟩
        | _ => cases h
      · rw [if_neg hc] at h
        simp only [if_neg hc]
        obtain ⟨c, hco, rfl⟩ := Option.map_eq_some_iff.1 h
        exact ⟨c, rfl, constructOpt_repr opts _ v c (Ty.wf_union hwf).2 hco⟩
    | _ => cases h

theorem constructFields_repr (fs : List Ty) (vs : List Val) (ns : List Node)
    (hwf : Ty.wfList fs = true) (h : Impl.constructFields H fs vs = some ns) :
    ReprFields H fs vs ns := by
  cases fs with
  | nil =>
    obtain ⟨rfl, rfl⟩ := constructFields_nil_some H h
    trivial
  | cons t ts =>
    obtain ⟨v, vs, m, ms, rfl, rfl, h1, h2⟩ := constructFields_cons_some H h
    have hwf := Ty.wfList_cons hwf
    exact ⟨construct_repr t v m hwf.1 h1, constructFields_repr ts vs ms hwf.2 h2⟩

theorem constructOpt_repr (opts : List Ty) (k : Nat) (v : Val) (n : Node)
    (hwf : Ty.wfList opts = true) (h : Impl.constructOpt H opts k v = some n) :
    ReprOpt H opts k v n := by
  match opts, k, h with
  | t :: _, 0, h => exact construct_repr t v n (Ty.wfList_cons hwf).1 h
  | _ :: ts, k + 1, h => exact constructOpt_repr ts k v n (Ty.wfList_cons hwf).2 h
end

theorem readLen_lenNode (H : Hash) (k : Nat) (h : k < 2 ^ 256) : readLen H (lenNode k) = k := by
  rw [readLen, lenNode_root, fromLE_toLE' 32 k h]

theorem listLength_mixin (H : Hash) (c : Node) (k : Nat) (h : k < 2 ^ 256) :
    listLength H (mixInNode c k) = some k := by
  simp [listLength, mixInNode, getRight, readLen_lenNode H k h]

theorem bitsToNat_testBit (g : List Bool) (k : Nat) :
    (bitsToNat g / 2 ^ k % 2 == 1) = g[k]?.getD false := by
  induction g generalizing k with
  | nil => simp
  | cons b g ih =>
    cases k with
    | zero => cases b <;> simp <;> omega
    | succ k =>
      have h2 : ((if b then 1 else 0) + 2 * bitsToNat g) / 2 = bitsToNat g := by
        cases b <;> simp <;> omega
      have hp : 2 ^ (k + 1) = 2 * 2 ^ k := by rw [Nat.pow_succ, Nat.mul_comm]
      rw [bitsToNat_cons, hp, ← Nat.div_div_eq_div_mul, h2, ih]
      simp

theorem packBits_length (bs : List Bool) :
    (packBits bs).length = ((bs.length + 7) / 8 + 31) / 32 := by
  rw [packBits_eq_pack, Spec.pack, bytesToChunks_length, bitsToBytes_length]

/-- where bit `i` of a bitfield of `len` bits lies: byte `i / 8`, which is byte `i % 256 / 8` of
    chunk `i / 256` -/
theorem bit_pos (i len : Nat) (hi : i < len) :
    i / 8 < (len + 7) / 8 ∧ 32 * (i / 256) + i % 256 / 8 = i / 8 ∧
      i % 256 / 8 < min 32 ((len + 7) / 8 - 32 * (i / 256)) ∧ 8 * (i / 8) + i % 8 = i := by
  omega

theorem bitOfChunk_packBits (bs : List Bool) (i : Nat) (hi : i < bs.length)
    (hj : i / 256 < (packBits bs).length) :
    bitOfChunk ((packBits bs)[i / 256]) i = bs[i] := by
  obtain ⟨h8, e2, hk', e4⟩ := bit_pos i bs.length hi
  have hB : (bitsToBytes bs).length = (bs.length + 7) / 8 := bitsToBytes_length bs
  have hg32 : i / 256 < (groups 32 (bitsToBytes bs)).length := by simpa [packBits] using hj
  have hg8 : i / 8 < (groups 8 bs).length := by rw [groups_length (by decide)]; exact h8
  have e1 : (packBits bs)[i / 256] =
      ((bitsToBytes bs).drop (32 * (i / 256))).take 32
        ++ zeros (32 - (((bitsToBytes bs).drop (32 * (i / 256))).take 32).length) := by
    simp only [packBits, List.getElem_map, groups_getElem (by decide : 0 < 32) _ _ hg32]
  have hk : (i % 256) / 8 < (((bitsToBytes bs).drop (32 * (i / 256))).take 32).length := by
    rw [List.length_take, List.length_drop, hB]; exact hk'
  have hi8 : i / 8 < (bitsToBytes bs).length := hB ▸ h8
  have e3 : (bitsToBytes bs)[i / 8] = UInt8.ofNat (bitsToNat ((bs.drop (8 * (i / 8))).take 8)) := by
    simp only [bitsToBytes, List.getElem_map, groups_getElem (by decide : 0 < 8) _ _ hg8]
  unfold bitOfChunk
  rw [e1, List.getD_eq_getElem?_getD, List.getElem?_append_left hk, List.getElem?_eq_getElem hk,
    Option.getD_some, List.getElem_take, List.getElem_drop]
  simp only [e2, e3]
  rw [toNat_ofNat_bitsToNat (by rw [List.length_take]; exact Nat.min_le_left ..), bitsToNat_testBit,
    List.getElem?_take_of_lt (Nat.mod_lt _ (by decide)), List.getElem?_drop]
  simp [e4, hi]
theorem read_bit_elem (H : Hash) (bs : List Bool) (d : Nat) (n : Node)
    (hct : ChunkTree H d ((packBits bs).map .leaf) n) (i : Nat) (hi : i < bs.length) :
    (getAt n (i / 256) d).map (fun c => bitOfChunk (c.root H) i) = some bs[i] ∧ i / 256 < 2 ^ d := by
  have hj : i / 256 < (packBits bs).length := by rw [packBits_length]; omega
  have hj' : i / 256 < ((packBits bs).map Node.leaf).length := by simpa using hj
  have hle := ct_length_le hct
  refine ⟨?_, by omega⟩
  rw [ct_get hct hj']
  simp only [Option.map_some, List.getElem_map, Node.root, bitOfChunk_packBits bs i hi hj]

theorem flatMap_root_map_leaf (H : Hash) (cs : List Chunk) :
    (cs.map Node.leaf).flatMap (fun c => c.root H) = cs.flatten := by
  induction cs with
  | nil => rfl
  | cons c cs ih => simp only [List.map_cons, List.flatMap_cons, Node.root, ih, List.flatten_cons]

theorem readChunks_ct (H : Hash) (d : Nat) (cs : List Chunk) (n : Node)
    (hct : ChunkTree H d (cs.map .leaf) n) :
    readChunks H n d cs.length = some cs.flatten := by
  unfold readChunks
  have key := allSome_range_getElem (cs.map Node.leaf) (fun i => getAt n i d)
    (fun i hi => ct_get hct hi)
  rw [List.length_map] at key
  rw [key, Option.map_some, flatMap_root_map_leaf]

theorem read_bytes_ct (H : Hash) (bs : List UInt8) (d : Nat) (c : Node)
    (hct : ChunkTree H d ((packBytes bs).map .leaf) c) :
    (if d = 0 then some (Val.bytes ((c.root H).take bs.length))
      else (readChunks H c d ((bs.length + 31) / 32)).map fun b => Val.bytes (b.take bs.length))
      = some (.bytes bs) := by
  split
  · next hd =>
    subst hd
    by_cases h0 : bs.length = 0
    · have : bs = [] := List.eq_nil_of_length_eq_zero h0
      subst this
      simp
    · have hle := ct_length_le hct
      simp only [List.length_map, packBytes_length, Nat.pow_zero] at hle
      rw [packBytes_short bs (by omega) (by omega)] at hct
      have := (ct_zero_singleton_iff H _ c).1 (by simpa using hct)
      subst this
      simp [Node.root]
  · rw [← packBytes_length, readChunks_ct H d (packBytes bs) c hct, Option.map_some,
      packBytes_eq_pack, Spec.pack, take_bytesToChunks_flatten]

theorem flatMap_toLE_slice (size : Nat) (l : List Nat) (r : Nat) (hr : r < l.length) :
    ((l.flatMap fun v => toLE size v).drop (r * size)).take size = toLE size l[r] := by
  induction l generalizing r with
  | nil => simp at hr
  | cons a l ih =>
    cases r with
    | zero =>
      simp only [Nat.zero_mul, List.drop_zero, List.flatMap_cons, List.getElem_cons_zero]
      exact List.take_left' (toLE_length size a)
    | succ r =>
      have e : (r + 1) * size = size + r * size := by rw [Nat.succ_mul]; omega
      rw [e, ← List.drop_drop, List.flatMap_cons, List.drop_left' (toLE_length size a),
        List.getElem_cons_succ]
      exact ih r (by simpa using hr)

theorem packInts_getElem_slice (size : Nat) (nums : List Nat) (i : Nat) (hper : 0 < 32 / size)
    (hi : i < nums.length) (hj : i / (32 / size) < (packInts size nums).length) :
    (((packInts size nums)[i / (32 / size)]).drop ((i % (32 / size)) * size)).take size
      = toLE size nums[i] := by
  have hg : i / (32 / size) < (groups (32 / size) nums).length := by simpa [packInts] using hj
  have hdm := Nat.div_add_mod i (32 / size)
  have hmod := Nat.mod_lt i hper
  generalize hP : 32 / size = per at *
  have e1 : (packInts size nums)[i / per] =
      (((nums.drop (per * (i / per))).take per) ++
        List.replicate (per - ((nums.drop (per * (i / per))).take per).length) 0).flatMap
        fun v => toLE size v := by
    simp only [packInts, hP, List.getElem_map, groups_getElem hper _ _ hg]
  have hr : i % per < ((nums.drop (per * (i / per))).take per).length := by
    simp only [List.length_take, List.length_drop]; omega
  rw [e1, flatMap_toLE_slice size _ (i % per) (by simp only [List.length_append]; omega),
    List.getElem_append_left hr, List.getElem_take, List.getElem_drop]
  simp only [hdm]

theorem packInts_length' (et : Ty) (hwf : et.wf = true) (hb : et.isBasic = true) (ns : List Nat) :
    (packInts et.basicSize ns).length = chunkLen et ns.length := by
  rw [packInts_length _ (per_pos et hwf hb)]
  simp [chunkLen, hb]

/-- `basic_view_from_backing` on a chunk whose slice `j` is the encoding of `v` returns `v` -/
theorem readBasicAt_slice (H : Hash) (et : Ty) (v : Val) (hb : et.isBasic = true)
    (hwt : WT et v = true) (c : Chunk) (j : Nat)
    (hs : (c.drop (j * et.basicSize)).take et.basicSize = toLE et.basicSize (numOf v)) :
    readBasicAt H et (.leaf c) j = some v := by
  cases et <;> simp [Ty.isBasic] at hb
  · rename_i nb
    cases v <;> unfold WT at hwt <;> simp at hwt
    rename_i x
    simp only [Ty.basicSize, numOf] at hs
    unfold readBasicAt
    simp only [Node.root, Ty.basicSize, hs, fromLE_toLE' nb x hwt]
  · cases v <;> unfold WT at hwt <;> simp at hwt
    rename_i x
    simp only [Ty.basicSize, numOf] at hs
    unfold readBasicAt
    simp only [Node.root, Ty.basicSize, hs]
    have : x = 0 ∨ x = 1 := by omega
    rcases this with rfl | rfl <;> simp [toLE]

theorem read_packed_elem (H : Hash) (et : Ty) (vs : List Val) (d : Nat) (n : Node)
    (hwf : et.wf = true) (hb : et.isBasic = true) (hwt : ∀ v ∈ vs, WT et v = true)
    (hct : ChunkTree H d ((packInts et.basicSize (vs.map numOf)).map .leaf) n)
    (i : Nat) (hi : i < vs.length) :
    ((getAt n (i / (32 / et.basicSize)) d).bind
        fun c => readBasicAt H et c (i % (32 / et.basicSize))) = some vs[i] ∧
      i / (32 / et.basicSize) < 2 ^ d := by
  have hper := per_pos et hwf hb
  have hp := DefaultNode.packed_chunk_lt et hwf hb vs.length i hi
  have hlen := packInts_length' et hwf hb (vs.map numOf)
  rw [List.length_map] at hlen
  have hj : i / (32 / et.basicSize) < (packInts et.basicSize (vs.map numOf)).length := by
    rw [hlen]; exact hp.1
  have hj' : i / (32 / et.basicSize) <
      ((packInts et.basicSize (vs.map numOf)).map Node.leaf).length := by simpa using hj
  have hle := ct_length_le hct
  refine ⟨?_, by omega⟩
  rw [ct_get hct hj']
  simp only [Option.bind_some, List.getElem_map]
  apply readBasicAt_slice H et vs[i] hb (hwt _ (List.getElem_mem _))
  have := packInts_getElem_slice et.basicSize (vs.map numOf) i hper (by simpa using hi) hj
  simpa using this

mutual
/-- every list / bitlist / bytelist limit occurring in the type is `< 2^256` (so that the length
    stored in the 32-byte length leaf is read back exactly) -/
def limitsOk : Ty → Bool
  | .uint _ => true
  | .bool => true
  | .bitvector _ => true
  | .bytevector _ => true
  | .bitlist lim => lim < 2 ^ 256
  | .bytelist lim => lim < 2 ^ 256
  | .vector t _ => limitsOk t
  | .list t lim => lim < 2 ^ 256 && limitsOk t
  | .container fs => limitsOkList fs
  | .union _ opts => limitsOkList opts
def limitsOkList : List Ty → Bool
  | [] => true
  | t :: ts => limitsOk t && limitsOkList ts
end

variable {H}

/-- reading a bitfield through `g`, a node whose first bottom positions are those of the chunk
    tree `c` (the bit vector itself, or the bit list above its contents) -/
theorem bits_read {bs : List Bool} {d : Nat} {c : Node}
    (hct : ChunkTree H d ((packBits bs).map .leaf) c) (g : Node) (D : Nat)
    (hg : ∀ i, i < 2 ^ d → getAt g i D = getAt c i d) :
    (allSome ((List.range bs.length).map fun i =>
      (getAt g (i / 256) D).map fun c => bitOfChunk (c.root H) i)).map Val.bits
      = some (.bits bs) := by
  rw [allSome_range_getElem bs]
  · rfl
  · intro i hi
    have := read_bit_elem H bs d c hct i hi
    rw [hg _ this.2]
    exact this.1

/-- reading all elements of a vector or list through `g` (the vector itself, or the list above
    its contents `c`), given that the elements' subtrees read back -/
theorem seqRepr_read {et : Ty} {d : Nat} {vs : List Val} {c : Node} (hwf : et.wf = true)
    (h : SeqRepr H et d vs c) (ih : ∀ v n, Impl.Repr H et v n → readVal H et n = some v)
    (g : Node) (D : Nat) (hg : ∀ i, i < 2 ^ d → getAt g i D = getAt c i d) :
    (if et.isBasic then
      (allSome ((List.range vs.length).map fun i =>
        (getAt g (i / (32 / et.basicSize)) D).bind fun c =>
          readBasicAt H et c (i % (32 / et.basicSize)))).map Val.seq
    else
      (allSome ((List.range vs.length).map fun i =>
        (getAt g i D).bind fun c => readVal H et c)).map Val.seq) = some (.seq vs) := by
  unfold SeqRepr at h
  split at h
  · next hb =>
    rw [if_pos hb, allSome_range_getElem vs]
    · rfl
    · intro i hi
      have := read_packed_elem H et vs d c hwf hb h.1 h.2 i hi
      rw [hg _ this.2]
      exact this.1
  · next hb =>
    obtain ⟨ns, hall, hct⟩ := h
    rw [if_neg hb, allSome_range_getElem vs]
    · rfl
    · intro i hi
      have hi' : i < ns.length := allRel_length hall ▸ hi
      rw [hg i (Nat.lt_of_lt_of_le hi' (ct_length_le hct)), ct_get hct hi']
      exact ih _ _ (allRel_get hall i hi hi')

/-! `readVal` returns the represented value, kind by kind, under what that kind alone needs: a
limit or selector below `2^256` (the length leaf has 32 bytes), a well-formed element type. -/

theorem read_basic {et : Ty} {v : Val} {n : Node} (hb : et.isBasic = true)
    (h : Impl.Repr H et v n) : readBasicAt H et n 0 = some v := by
  have hw := repr_wt H et v n h
  obtain ⟨x, rfl, _⟩ := WT_basic hb hw
  have hn : n = .leaf (chunkOfLE et.basicSize x) := by cases et <;> cases hb <;> exact h.2
  rw [hn]
  exact readBasicAt_slice H et _ hb hw _ 0
    (by rw [Nat.zero_mul, List.drop_zero]; exact take_chunkOfLE _ x)

theorem read_bitvector {len : Nat} {v : Val} {n : Node} (h : Impl.Repr H (.bitvector len) v n) :
    readVal H (.bitvector len) n = some v := by
  cases v with
  | bits bs =>
    obtain ⟨rfl, hct⟩ := h
    exact bits_read hct n _ fun _ _ => rfl
  | _ => exact h.elim

theorem read_bitlist {lim : Nat} {v : Val} {n : Node} (hlim : lim < 2 ^ 256)
    (h : Impl.Repr H (.bitlist lim) v n) : readVal H (.bitlist lim) n = some v := by
  cases v with
  | bits bs =>
    obtain ⟨hlen, c, rfl, hct⟩ := h
    simp only [readVal, listLength_mixin H c _ (Nat.lt_of_le_of_lt hlen hlim)]
    exact bits_read hct _ _ fun _ hi => getAt_mixin _ _ hi
  | _ => exact h.elim

theorem read_bytevector {len : Nat} {v : Val} {n : Node} (h : Impl.Repr H (.bytevector len) v n) :
    readVal H (.bytevector len) n = some v := by
  cases v with
  | bytes bs =>
    obtain ⟨rfl, hct⟩ := h
    exact read_bytes_ct H bs _ n hct
  | _ => exact h.elim

theorem read_bytelist {lim : Nat} {v : Val} {n : Node} (hlim : lim < 2 ^ 256)
    (h : Impl.Repr H (.bytelist lim) v n) : readVal H (.bytelist lim) n = some v := by
  cases v with
  | bytes bs =>
    obtain ⟨hlen, c, rfl, hct⟩ := h
    unfold readVal
    simp only [mixInNode, getLeft, getRight,
      readLen_lenNode H _ (Nat.lt_of_le_of_lt hlen hlim)]
    rw [if_neg (Nat.not_lt.2 hlen)]
    exact read_bytes_ct H bs _ c hct
  | _ => exact h.elim

theorem read_vector {et : Ty} {len : Nat} {v : Val} {n : Node} (hwf : et.wf = true)
    (h : Impl.Repr H (.vector et len) v n)
    (ih : ∀ w m, Impl.Repr H et w m → readVal H et m = some w) :
    readVal H (.vector et len) n = some v := by
  cases v with
  | seq vs =>
    obtain ⟨rfl, hs⟩ := repr_vector_iff.1 h
    exact seqRepr_read hwf hs ih n _ fun _ _ => rfl
  | _ => exact h.elim

theorem read_list {et : Ty} {lim : Nat} {v : Val} {n : Node} (hwf : et.wf = true)
    (hlim : lim < 2 ^ 256) (h : Impl.Repr H (.list et lim) v n)
    (ih : ∀ w m, Impl.Repr H et w m → readVal H et m = some w) :
    readVal H (.list et lim) n = some v := by
  cases v with
  | seq vs =>
    obtain ⟨hlen, c, rfl, hs⟩ := repr_list_iff.1 h
    unfold readVal
    simp only [listLength_mixin H c _ (Nat.lt_of_le_of_lt hlen hlim)]
    exact seqRepr_read hwf hs ih _ _ fun _ hi => getAt_mixin _ _ hi
  | _ => exact h.elim

theorem read_union {hasNone : Bool} {opts : List Ty} {v : Val} {n : Node}
    (hcount : optCount hasNone opts < 2 ^ 256) (h : Impl.Repr H (.union hasNone opts) v n)
    (ih : ∀ k w c, ReprOpt H opts k w c → readOpt H opts k c = some w) :
    readVal H (.union hasNone opts) n = some v := by
  cases v with
  | un sel v =>
    obtain ⟨hsel, c, rfl, h⟩ := h
    unfold readVal
    simp only [getLeft, getRight, readLen_lenNode H sel (Nat.lt_trans hsel hcount)]
    rw [if_neg (Nat.not_le.2 hsel)]
    by_cases hc : (hasNone && sel == 0) = true
    · rw [if_pos hc] at h ⊢
      obtain ⟨rfl, rfl⟩ := h
      obtain ⟨-, rfl⟩ : hasNone = true ∧ sel = 0 := by simpa using hc
      rfl
    · rw [if_neg hc] at h ⊢
      rw [ih _ v c h]
      rfl
  | _ => exact h.elim

variable (H)

mutual
/-- reading the whole content through the view API returns exactly the represented value.
    `hlim`: every list / bitlist / bytelist limit in `t` is `< 2^256` (the length leaf has 32 bytes). -/
theorem repr_read (t : Ty) (v : Val) (n : Node) (hwf : t.wf = true) (hlim : limitsOk t = true)
    (h : Impl.Repr H t v n) : Impl.readVal H t n = some v := by
  cases t with
  | uint nb => exact read_basic rfl h
  | bool => exact read_basic rfl h
  | bitvector len => exact read_bitvector h
  | bitlist lim => exact read_bitlist (of_decide_eq_true hlim) h
  | bytevector len => exact read_bytevector h
  | bytelist lim => exact read_bytelist (of_decide_eq_true hlim) h
  | vector et len =>
    have hwf := (Ty.wf_vector hwf).2
    exact read_vector hwf h fun w m hr => repr_read et w m hwf hlim hr
  | list et lim =>
    have hwf := Ty.wf_list hwf
    unfold limitsOk at hlim
    rw [Bool.and_eq_true, decide_eq_true_eq] at hlim
    exact read_list hwf hlim.1 h fun w m hr => repr_read et w m hwf hlim.2 hr
  | container fs =>
    cases v with
    | seq vs =>
      obtain ⟨ns, hf, hct⟩ := h
      unfold readVal
      rw [reprFields_read fs vs ns (Ty.wf_container hwf).2 hlim hf n (getDepth fs.length) 0
        fun i hi => by rw [Nat.zero_add, ct_get hct hi, List.getElem?_eq_getElem hi]]
      rfl
    | _ => exact h.elim
  | union hasNone opts =>
    exact read_union (Nat.lt_of_le_of_lt (Ty.wf_union_count hwf) (by decide)) h fun k w c hr =>
      reprOpt_read opts k w c (Ty.wf_union hwf).2 hlim hr

theorem reprFields_read (fs : List Ty) (vs : List Val) (ns : List Node)
    (hwf : Ty.wfList fs = true) (hlim : limitsOkList fs = true) (h : ReprFields H fs vs ns)
    (n : Node) (depth k : Nat) (hget : ∀ i, i < ns.length → getAt n (k + i) depth = ns[i]?) :
    Impl.readFields H fs n depth k = some vs := by
  match fs, vs, ns, h with
  | [], [], [], _ => rfl
  | t :: ts, v :: vs, m :: ms, h =>
    have hwf := Ty.wfList_cons hwf
    unfold limitsOkList at hlim
    rw [Bool.and_eq_true] at hlim
    obtain ⟨h0, hs⟩ := getAt_cons_shift hget
    unfold readFields
    rw [h0, Option.bind_some, repr_read t v m hwf.1 hlim.1 h.1,
      reprFields_read ts vs ms hwf.2 hlim.2 h.2 n depth (k + 1) hs]

theorem reprOpt_read (opts : List Ty) (k : Nat) (v : Val) (c : Node)
    (hwf : Ty.wfList opts = true) (hlim : limitsOkList opts = true) (h : ReprOpt H opts k v c) :
    Impl.readOpt H opts k c = some v := by
  match opts, k, h with
  | t :: ts, 0, h =>
    unfold limitsOkList at hlim
    rw [Bool.and_eq_true] at hlim
    exact repr_read t v c (Ty.wfList_cons hwf).1 hlim.1 h
  | t :: ts, k + 1, h =>
    unfold limitsOkList at hlim
    rw [Bool.and_eq_true] at hlim
    exact reprOpt_read ts k v c (Ty.wfList_cons hwf).2 hlim.2 h
end

theorem repr_unique_root (t : Ty) (v : Val) (n n' : Node) (hwf : t.wf = true)
    (h : Impl.Repr H t v n) (h' : Impl.Repr H t v n') : n.root H = n'.root H := by
  rw [repr_root H t v n hwf h, repr_root H t v n' hwf h']

theorem repr_unique_val (t : Ty) (v v' : Val) (n : Node) (hwf : t.wf = true)
    (hlim : limitsOk t = true) (h : Impl.Repr H t v n) (h' : Impl.Repr H t v' n) : v = v' := by
  have h1 := repr_read H t v n hwf hlim h
  rw [repr_read H t v' n hwf hlim h'] at h1
  exact (Option.some.inj h1).symm

/-- constructor round trip: reading a constructed tree gives the value back -/
theorem construct_read (t : Ty) (v : Val) (n : Node) (hwf : t.wf = true)
    (hlim : limitsOk t = true) (h : Impl.construct H t v = some n) :
    Impl.readVal H t n = some v :=
  repr_read H t v n hwf hlim (construct_repr H t v n hwf h)

/-- the default tree and any tree representing the zero value (e.g. the explicitly constructed
    one, or one reached by appends and pops) have the same root -/
theorem default_root_eq_of_repr (t : Ty) (n m : Node) (hwf : t.wf = true)
    (hd : Impl.defaultNode H t = some n) (hm : Impl.Repr H t (Spec.zeroVal t) m) :
    n.root H = m.root H :=
  repr_unique_root H t _ n m hwf (default_repr H t n hwf hd) hm

/-! Non-vacuity: `Repr` admits a summarised and an expanded tree for the same value. -/
example : Impl.Repr H (.list (.uint 8) 8) (.seq []) (mixInNode (zeroNode H 1) 0) := by
  simp only [Impl.Repr]
  refine ⟨by simp, _, rfl, ?_⟩
  have hd : getDepth (chunkLen (.uint 8) 8) = 1 := by decide
  simp only [Ty.isBasic, if_true, List.map_nil, packInts_nil, hd]
  exact ⟨by simp, ct_zero H 1⟩

example : Impl.Repr H (.list (.uint 8) 8) (.seq [])
    (mixInNode (.pair (zeroNode H 0) (zeroNode H 0)) 0) := by
  simp only [Impl.Repr]
  refine ⟨by simp, _, rfl, ?_⟩
  have hd : getDepth (chunkLen (.uint 8) 8) = 1 := by decide
  simp only [Ty.isBasic, if_true, List.map_nil, packInts_nil, hd]
  exact ⟨by simp, ct_nil_of_isZero (.pair 0 _ _ (.summary 0) (.summary 0))⟩

end Rmk.ReprBasics
