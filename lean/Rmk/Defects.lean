/-
The theorems are sharp: model-level witnesses for the repaired defects that live in modelled code (D1–D9, D11–D13,
D15–D18; outside the model are D10, an import-time error, D14, a CPython-level defect — a mutable buffer — and D19, sizes
given as uint views where the model has plain naturals).

The Lean model mirrors the REPAIRED library.  For every defect that lives in modelled code this file
puts the bug back into a small local copy of the affected model function (`…Buggy`, `…Unrepaired`, or a
switch) and exhibits, by kernel evaluation (`decide +kernel`), a concrete input on which the statement of
the property theorem that the repaired model satisfies FAILS for the pre-repair variant (and holds for the
repaired one).  So the property theorems are not vacuous and are sensitive to exactly these bugs.  These
are labelled tests, not general theorems (the only general statements are `deserContainerWith_repaired`
and the D13 equivalence `deserVarN_prefix_same_result`, with its lemmas `deserVarNTrace_*`).

The toy hash `H0 a b = a ++ b` is used wherever a hash is needed.
-/
import Rmk.Model.Tree
import Rmk.Model.Types
import Rmk.Spec.Ssz
import Rmk.Spec.Apply
import Rmk.Impl.Layout
import Rmk.Impl.View
import Rmk.Impl.Codec
import Rmk.Impl.Misc
import Rmk.Impl.Store
import Rmk.Impl.Virtual
import Rmk.Impl.StoreGuard
namespace Rmk.Defects
open Rmk Rmk.Impl Rmk.Spec

def H0 : Hash := fun a b => a ++ b

/-! ## D1 — `Bitlist.pop` cleared bit `len` instead of `len - 1` and summarised a non-emptied chunk
(fix 3f5aecb, property C04).  Buggy copy of the `.bitlist`/`.pop` branch of `Impl.apply`. -/

def bitlistPopBuggy (H : Hash) (lim : Nat) (n : Node) : Option Node :=
  match listLength H n with
  | none => none
  | some len =>
    if len = 0 then none else
    let i := len - 1
    let depth := getDepth ((lim + 255) / 256) + 1
    let chunkI := i / 256
    if chunkI ≥ 2 ^ depth then none else
    let next : Option Node :=
      if i % 256 == 0 then setAt H false n chunkI depth (zeroNode H 0)
      else (getAt n chunkI depth).bind fun chunk =>
        setAt H false n chunkI depth (chunkWithBit H chunk len false)      -- BUG: `ll & 0xff`, not `i & 0xff`
    next.bind fun nx =>
      popFinish H nx (pbits depth chunkI) (chunkI % 2 == 0) (len - 1)      -- BUG: no `and (i & 0xff) == 0`

/-- `Bitlist[8](1,1,1)` -/
def d1Tree (lim : Nat) : Option Node := construct H0 (.bitlist lim) (.bits [true, true, true])

/-- repaired model: after `pop` the root is the spec root of `[1,1]` and the encoding is `07` (C04.step /
    C04.history_observations) -/
example :
    ((d1Tree 8).bind fun n => apply H0 (.bitlist 8) n .pop).map (·.root H0)
      = some (htr H0 (.bitlist 8) (.bits [true, true])) ∧
    ((d1Tree 8).bind fun n => apply H0 (.bitlist 8) n .pop).bind (serTree H0 (.bitlist 8))
      = some (serialize (.bitlist 8) (.bits [true, true]), 1) ∧
    serialize (.bitlist 8) (.bits [true, true]) = [7] := by decide +kernel

/-- buggy variant: bit 2 is still set below the new length; the root is NOT the spec root of `[1,1]`
    and the encoding is `03` instead of `07` -/
example :
    ((d1Tree 8).bind fun n => bitlistPopBuggy H0 8 n).map (·.root H0)
      ≠ some (htr H0 (.bitlist 8) (.bits [true, true])) ∧
    ((d1Tree 8).bind fun n => bitlistPopBuggy H0 8 n).bind (serTree H0 (.bitlist 8))
      = some ([3], 1) := by decide +kernel

/-- buggy variant, second half of the bug: with more than one chunk of capacity (`Bitlist[600]`) the
    non-emptied chunk 0 is summarised (up to the contents root), so the remaining bits cannot be read
    any more; the repaired model reads back `[1,1]` (as a serialisation: `07`). -/
example :
    ((d1Tree 600).bind fun n => bitlistPopBuggy H0 600 n).isSome = true ∧
    (((d1Tree 600).bind fun n => bitlistPopBuggy H0 600 n).bind (readVal H0 (.bitlist 600))).isSome = false ∧
    (((d1Tree 600).bind fun n => apply H0 (.bitlist 600) n .pop).bind (readVal H0 (.bitlist 600))).map
        (serialize (.bitlist 600)) = some [7] := by decide +kernel

/-! ## D2 — `Container.deserialize` accepted a gap before the first variable part
(`first offset < fixed size` instead of `≠`; fix 628b66f, property C10).
## D3 — fixed-size `Container.deserialize` ignored the scope (fix e835eb3, property C10).
One standalone copy of the container branch of `Impl.deser` (it uses the sub-decoders of the model's
mutual block), with a switch for each of the two bugs. -/

def deserContainerWith (gapBug scopeBug : Bool) (fs : List Ty) (s : Stream) (scope : Nat) :
    Option (Val × Stream) :=
  if Spec.allFixed fs then
    if !scopeBug && scope != Spec.fixedLenSum fs then none             -- D3 BUG when `scopeBug`: check absent
    else (deserFixedFields fs s).map fun (vs, s') => (.seq vs, s')
  else
    match deserScan fs s with
    | none => none
    | some (slots, offs, s1) =>
      let fixedSize := Spec.fixedPartLen fs
      match offs.head? with
      | none => some (.seq (slots.filterMap id), s1)
      | some first =>
        if (if gapBug then decide (first < fixedSize) else first != fixedSize) then none   -- D2 BUG: `<`
        else
          match deserDyn fs scope (offs ++ [scope]) s1 with
          | none => none
          | some (dynVals, s2) => some (.seq (mergeSlots slots dynVals), s2)

/-- with both switches off this IS the container branch of the model -/
theorem deserContainerWith_repaired (fs : List Ty) (s : Stream) (scope : Nat) :
    deserContainerWith false false fs s scope = deser (.container fs) s scope := by
  unfold deser
  rfl

/-- what `DecodeSound.sound` asserts about an accepted input, in a decidable form: re-encoding the
    decoded value gives the consumed bytes, and exactly `scope` bytes are consumed -/
def soundOn (t : Ty) (s : Stream) (scope : Nat) (r : Option (Val × Stream)) : Bool :=
  match r with
  | none => true
  | some (v, rest) => WT t v && serialize t v == s.take scope && rest == s.drop scope

def tD2 : Ty := .container [.list (.uint 1) 10]

/-- D2 witness `05000000aabb` for `{List[uint8,10]}`: accepted by the buggy decoder with the value
    `[aa]`, which re-encodes as `04000000aa` ≠ input (and `bb` is left unread): `DecodeSound.sound` fails.
    The repaired decoder rejects the input. -/
example :
    (deserContainerWith true false [.list (.uint 1) 10] [5, 0, 0, 0, 0xaa, 0xbb] 6).map
        (fun p => (serialize tD2 p.1, p.2)) = some ([4, 0, 0, 0, 0xaa], [0xbb]) ∧
    soundOn tD2 [5, 0, 0, 0, 0xaa, 0xbb] 6
      (deserContainerWith true false [.list (.uint 1) 10] [5, 0, 0, 0, 0xaa, 0xbb] 6) = false ∧
    tD2.wf = true ∧
    deser tD2 [5, 0, 0, 0, 0xaa, 0xbb] 6 = none := by decide +kernel

def tD3 : Ty := .container [.uint 2, .uint 1]

/-- D3 witnesses for `{uint16,uint8}`: 4 bytes with scope 4 are accepted (3 consumed, re-encoding is
    `010203`), and 2 bytes with scope 2 are accepted (re-encoding is `010200`).  The first one
    contradicts `DecodeSound.sound` (`scope ≤ length`); the repaired decoder rejects both. -/
example :
    (deserContainerWith false true [.uint 2, .uint 1] [1, 2, 3, 4] 4).map
        (fun p => (serialize tD3 p.1, p.2)) = some ([1, 2, 3], [4]) ∧
    soundOn tD3 [1, 2, 3, 4] 4 (deserContainerWith false true [.uint 2, .uint 1] [1, 2, 3, 4] 4) = false ∧
    (deserContainerWith false true [.uint 2, .uint 1] [1, 2] 2).map
        (fun p => (serialize tD3 p.1, p.2)) = some ([1, 2, 0], []) ∧
    tD3.wf = true ∧
    deser tD3 [1, 2, 3, 4] 4 = none ∧ deser tD3 [1, 2] 2 = none ∧
    (deser tD3 [1, 2, 3, 4] 3).map (fun p => (serialize tD3 p.1, p.2)) = some ([1, 2, 3], [4]) := by decide +kernel

/-! ## D4 — `Union.deserialize` accepted trailing bytes after the `None` option
(fix 0505683, property C10).  Copy of the union branch of `Impl.deser`. -/

def deserUnionBuggy (hasNone : Bool) (opts : List Ty) (s : Stream) (scope : Nat) : Option (Val × Stream) :=
  if scope < 1 then none
  else
    let sel := fromLE (s.take 1)
    let s1 := s.drop 1
    if sel ≥ optCount hasNone opts then none
    else if hasNone && sel == 0 then some (.un 0 .none, s1)              -- BUG: no `scope != 1` check
    else (deserOpt opts (optIndex hasNone sel) s1 (scope - 1)).map fun (v, s2) => (.un sel v, s2)

def tD4 : Ty := .union true [.uint 1]

/-- D4 witness `00ff` for `Union[None,uint8]`: accepted, re-encodes as `00`, `ff` left unread -/
example :
    (deserUnionBuggy true [.uint 1] [0, 0xff] 2).map (fun p => (serialize tD4 p.1, p.2))
      = some ([0], [0xff]) ∧
    soundOn tD4 [0, 0xff] 2 (deserUnionBuggy true [.uint 1] [0, 0xff] 2) = false ∧
    tD4.wf = true ∧
    deser tD4 [0, 0xff] 2 = none ∧
    -- the valid inputs are treated alike
    (deserUnionBuggy true [.uint 1] [0] 1).map (fun p => (serialize tD4 p.1, p.2)) = some ([0], []) ∧
    (deser tD4 [0] 1).map (fun p => (serialize tD4 p.1, p.2)) = some ([0], []) := by decide +kernel

/-! ## D5 — `boolean.decode_bytes` accepted any non-zero byte (fix 020e9e7, property C10).
Copy of the `.bool` branch of `Impl.deser`. -/

def deserBoolBuggy (s : Stream) (scope : Nat) : Option (Val × Stream) :=
  if 1 != scope then none
  else some (.num (if s.take 1 != [0] then 1 else 0), s.drop 1)           -- BUG: `bytez != b"\x00"`

/-- D5 witness `02`: accepted as `True`, which re-encodes as `01` -/
example :
    (deserBoolBuggy [2] 1).map (fun p => (serialize .bool p.1, p.2)) = some ([1], []) ∧
    soundOn .bool [2] 1 (deserBoolBuggy [2] 1) = false ∧
    deser .bool [2] 1 = none ∧
    (deser .bool [1] 1).map (fun p => (serialize .bool p.1, p.2)) = some ([1], []) := by decide +kernel

/-! ## D6 — the `Union.value()` hook dropped the changed backing (fix a8fddb4, property C05).
The hook computed `self.get_backing().setter(LEFT)(v.get_backing())` and threw the result away:
in the store model the parent's `set(key, child)` run by the hook returns the OLD union node. -/

def setChildNodeBuggy (H : Hash) (t : Ty) (n : Node) (key : Nat) (child : Node) : Option Node :=
  match t with
  | .union _ _ => (rebindLeft n child).map fun _ => n                    -- BUG: result dropped
  | _ => setChildNode H t n key child

/-- `set_backing` with the buggy hook -/
def setBackingBuggy (H : Hash) : Nat → Store → Nat → Node → Option Store
  | 0, _, _, _ => none
  | fuel+1, s, r, n =>
    match s[r]? with
    | none => none
    | some o =>
      let s1 := s.set r { o with backing := n }
      match o.hook with
      | none => some s1
      | some (p, key) =>
        match s1[p]? with
        | none => none
        | some po =>
          match setChildNodeBuggy H po.ty po.backing key n with
          | none => none
          | some pn => setBackingBuggy H fuel s1 p pn

/-- `Impl.step` for a mutation, with the buggy hook -/
def mutateBuggy (H : Hash) (s : Store) (r : Nat) (op : Op) : Option Store :=
  match s[r]? with
  | none => none
  | some o =>
    match apply H o.ty o.backing op with
    | none => none
    | some n' => setBackingBuggy H (r + 1) s r n'

def tD6 : Ty := .union false [.container [.uint 1]]

/-- a union view holding `{5}` -/
def d6Union : Option Node := construct H0 tD6 (.un 0 (.seq [.num 5]))
/-- the node of `{7}` -/
def d6New : Option Node := construct H0 (.container [.uint 1]) (.seq [.num 7])

/-- hook level: the statement of `StoreLaws.childOf_setChildNode` (after the hook ran, the parent's
    child at `key` IS the node written) holds for the repaired hook and fails for the buggy one
    (node components compared; the type components agree). -/
example :
    (d6Union.bind fun n => d6New.bind fun c =>
      (setChildNode H0 tD6 n 0 c).bind fun n' => (childOf H0 tD6 n' 0).map (·.2)) = d6New ∧
    (d6Union.bind fun n => d6New.bind fun c =>
      (setChildNodeBuggy H0 tD6 n 0 c).bind fun n' => (childOf H0 tD6 n' 0).map (·.2)) ≠ d6New ∧
    -- (the buggy hook does not fail and the child is still readable: it is the OLD child)
    (d6Union.bind fun n => d6New.bind fun c =>
      (setChildNodeBuggy H0 tD6 n 0 c).bind fun n' => (childOf H0 tD6 n' 0).map (·.2))
      = construct H0 (.container [.uint 1]) (.seq [.num 5]) ∧
    d6New.isSome = true ∧ d6Union.isSome = true := by decide +kernel

/-- the store: view 0 = the union, view 1 = its value view (obtained by `value()`, hook `(0, 0)`) -/
def d6Store : Option Store :=
  d6Union.bind fun n => step H0 [{ ty := tD6, backing := n, hook := none }] (.child 0 0)

/-- the encoding of the content of view `r` of a store, read through the view API -/
def encOf (s : Option Store) (r : Nat) : Option (List UInt8) :=
  s.bind fun st => (st[r]?).bind fun o => (readVal H0 o.ty o.backing).map (serialize o.ty)

/-- store level (C05.propagates / C05.content): after `value_view.x = 7` the repaired model shows
    `{7}` in both views; with the buggy hook the value view reads `{7}` but the union still reads `{5}`. -/
example :
    encOf (d6Store.bind fun s => step H0 s (.mutate 1 (.set 0 (.num 7)))) 1 = some [7] ∧
    encOf (d6Store.bind fun s => step H0 s (.mutate 1 (.set 0 (.num 7)))) 0 = some [0, 7] ∧
    encOf (d6Store.bind fun s => mutateBuggy H0 s 1 (.set 0 (.num 7))) 1 = some [7] ∧
    encOf (d6Store.bind fun s => mutateBuggy H0 s 1 (.set 0 (.num 7))) 0 = some [0, 5] := by decide +kernel

/-! ## D7 — `ByteVector/ByteList.navigate_type` accepted the index equal to the length / limit
(fix 5227cb8, property C08). -/

def navigateTypeBuggy (t : Ty) (k : Key) : Option (Option Ty) :=
  match t, k with
  | .bytevector n, .idx i => if i > n then none else some (some (.uint 1))      -- BUG: `>` for `≥`
  | .bytelist lim, .idx i => if i > lim then none else some (some (.uint 1))    -- BUG: `>` for `≥`
  | _, _ => navigateType t k

def buildPathBuggy : Option Ty → List Key → Option (List (Key × Option Ty))
  | _, [] => some []
  | none, _ :: _ => none
  | some t, k :: ks =>
    match navigateTypeBuggy t k with
    | none => none
    | some t' => (buildPathBuggy t' ks).map fun rest => (k, t') :: rest

/-- D7 witness: `ByteVector[4] / 4` and `ByteList[4] / 4` are accepted as paths although the SSZ
    generalized index is undefined (C08.static_gindex: "both are undefined for exactly the same key
    sequences, so keys that do not belong to the type are rejected when the path is built").
    The repaired `buildPath` rejects them. -/
example :
    (buildPathBuggy (some (.bytevector 4)) [.idx 4]).isSome = true ∧
    Spec.gindex 1 (some (.bytevector 4)) [.idx 4] = none ∧
    (buildPath (some (.bytevector 4)) [.idx 4]).isSome = false ∧
    (buildPathBuggy (some (.bytelist 4)) [.idx 4]).isSome = true ∧
    Spec.gindex 1 (some (.bytelist 4)) [.idx 4] = none ∧
    (buildPath (some (.bytelist 4)) [.idx 4]).isSome = false := by decide +kernel

/-! ## D8 — `Bitlist.key_to_static_gindex` lacked `'__len__'` (fix d77458a, property C08). -/

def keyToStaticGindexBuggy (t : Ty) (k : Key) : Option Nat :=
  match t, k with
  | .bitlist _, .len => none                                               -- BUG: TypeError
  | _, _ => keyToStaticGindex t k

def stepGindicesBuggy : Option Ty → List (Key × Option Ty) → Option (List Nat)
  | _, [] => some []
  | none, _ :: _ => none
  | some t, (k, t') :: rest =>
    match keyToStaticGindexBuggy t k, stepGindicesBuggy t' rest with
    | some g, some gs => some (g :: gs)
    | _, _ => none

def pathGindexBuggy (t : Ty) (keys : List Key) : Option Nat :=
  match buildPath (some t) keys with
  | none => none
  | some p => (stepGindicesBuggy (some t) p).map concatGindices

/-- D8 witness: the path `Bitlist[8] / '__len__'` is accepted, its SSZ index is 3, the buggy static
    index is undefined: `C08.static_gindex` fails.  The repaired model gives 3. -/
example :
    (buildPath (some (.bitlist 8)) [.len]).isSome = true ∧
    pathGindexBuggy (.bitlist 8) [.len] = none ∧
    Spec.gindex 1 (some (.bitlist 8)) [.len] = some 3 ∧
    (Ty.bitlist 8).wf = true ∧
    pathGindex (.bitlist 8) [.len] = some 3 := by decide +kernel

/-! ## D9 — `get_target_history` returned `[]` for every history
(`if last is None or …: continue`; fix 1ddfdf3, property C18). -/

def historyLevelBuggy (H : Hash) (dir : Option Bool) :
    List (Nat × Node) → Option Chunk → Option (List (Nat × Node))
  | [], _ => some []
  | (k, n) :: rest, last =>
    let child : Option Node := match dir with
      | none => some n
      | some true => getRight n
      | some false => getLeft n
    match child with
    | none => none
    | some c =>
      if last.isNone || last == some (c.root H) then historyLevelBuggy H dir rest last   -- BUG: `last is None or`
      else (historyLevelBuggy H dir rest (some (c.root H))).map (fun t => (k, c) :: t)

def targetHistoryPathBuggy (H : Hash) : List (Nat × Node) → List Bool → Option (List (Nat × Node))
  | hist, [] => historyLevelBuggy H none hist none
  | hist, b :: bs =>
    match historyLevelBuggy H (some b) hist none with
    | none => none
    | some out => targetHistoryPathBuggy H out bs

def targetHistoryBuggy (H : Hash) (hist : List (Nat × Node)) (g : Nat) : Option (List (Nat × Node)) :=
  if g = 0 then none else targetHistoryPathBuggy H hist (gbits g)

def d9a : Node := .pair (.leaf [1]) (.pair (.leaf [2]) (.leaf [3]))
def d9b : Node := .pair (.leaf [1]) (.pair (.leaf [9]) (.leaf [3]))

/-- D9 witness: a non-empty history in which the target (gindex 6) exists everywhere and changes:
    the buggy result is empty (contradicting `C18.history_nonempty`), the repaired one is the list of
    changes. -/
example :
    (∀ e ∈ [(0, d9a), (1, d9a), (2, d9b)], (getter e.2 6).isSome = true) ∧
    targetHistoryBuggy H0 [(0, d9a), (1, d9a), (2, d9b)] 6 = some [] ∧
    targetHistoryBuggy H0 [(0, d9a), (1, d9a), (2, d9b)] 1 = some [] ∧
    targetHistory H0 [(0, d9a), (1, d9a), (2, d9b)] 6 = some [(0, .leaf [2]), (2, .leaf [9])] := by decide +kernel

/-! ## D10 — `remerkleable.virtual` could not be imported (class-level defaults conflict with
`__slots__`; fix 2a6f486, property C20).
NOT EXPRESSIBLE in the model: the defect is a Python class-definition error raised at import time,
before any function of the module can run.  The model (`Rmk/Impl/Virtual.lean`) describes the behaviour
of the functions of the module and has no notion of "the module fails to load"; there is no function
to put the bug back into.  (It is caught by the executable harness only.) -/

/-! ## D11 — `setter(expand=True)` expanded ANY leaf, discarding a non-zero summary
(fix bee36d6, properties C07 and C17). -/

def setPathBuggy (H : Hash) (expand : Bool) : Node → List Bool → Node → Option Node
  | _, [], v => some v
  | .pair l r, b :: bs, v =>
    if b then (setPathBuggy H expand r bs v).map (fun r' => .pair l r')
    else (setPathBuggy H expand l bs v).map (fun l' => .pair l' r)
  | .leaf _, b :: bs, v =>
    if expand then some (expandSet H (b :: bs) v) else none                -- BUG: no zero-summary check

/-- the complete tree and the partial tree whose left subtree is summarised (root `[1,2]` under `H0`) -/
def d11Full : Node := .pair (.pair (.leaf [1]) (.leaf [2])) (.leaf [3])
def d11Part : Node := .pair (.leaf [1, 2]) (.leaf [3])

/-- D11 witness against `setPath_expand_nonzero` (C07 / `C17.write_expand_excluded_fails`): the path
    `[false] ++ true :: []` runs through the non-zero leaf `[1,2]`; the repaired setter fails, the buggy
    one succeeds and the leaf `[1,2]` is gone (replaced by a zero leaf and the new value). -/
example :
    getPath d11Part [false] = some (.leaf [1, 2]) ∧ [1, 2] ≠ zeroHash H0 ([] : List Bool).length.succ ∧
    setPath H0 true d11Part ([false] ++ true :: []) (.leaf [7]) = none ∧
    setPathBuggy H0 true d11Part ([false] ++ true :: []) (.leaf [7])
      = some (.pair (.pair (zeroNode H0 0) (.leaf [7])) (.leaf [3])) := by decide +kernel

/-- D11 witness against C17 ("a write on the partial tree either fails or has the root of the same
    write on the complete tree"): the partial tree has the root of the complete tree, the write
    succeeds on both, and the roots afterwards differ. -/
example :
    d11Part.root H0 = d11Full.root H0 ∧
    (setPathBuggy H0 true d11Part [false, true] (.leaf [7])).isSome = true ∧
    (setPathBuggy H0 true d11Part [false, true] (.leaf [7])).map (·.root H0)
      ≠ (setPathBuggy H0 true d11Full [false, true] (.leaf [7])).map (·.root H0) ∧
    -- on complete trees (no leaf on the way) the buggy and the repaired setter agree
    setPathBuggy H0 true d11Full [false, true] (.leaf [7]) = setPath H0 true d11Full [false, true] (.leaf [7]) := by
  decide +kernel

/-! ## D12 — `Union` had no `coerce_view`: a union could not be the selected option of a union
(fix 4d4ca42, property C03 / C01). -/

def constructOptBuggy (H : Hash) : List Ty → Nat → Val → Option Node
  | [], _, _ => none
  | .union _ _ :: _, 0, _ => none                                          -- BUG: `coerce_view` stub returned None
  | t :: _, 0, v => construct H t v
  | _ :: ts, k+1, v => constructOptBuggy H ts k v

/-- the union branch of `Impl.construct` over the buggy option constructor -/
def constructUnionBuggy (H : Hash) (hasNone : Bool) (opts : List Ty) (sel : Nat) (v : Val) : Option Node :=
  if sel ≥ optCount hasNone opts then none
  else if hasNone && sel == 0 then
    (match v with | .none => some (.pair (zeroNode H 0) (lenNode 0)) | _ => none)
  else (constructOptBuggy H opts (optIndex hasNone sel) v).map fun c => .pair c (lenNode sel)

def tD12 : Ty := .union false [.union true [.uint 1]]
def vD12 : Val := .un 0 (.un 1 (.num 5))

/-- D12 witness: `Union[Union[None,uint8]]` with value `(0, (1, 5))` is a well-typed value of a
    well-formed type; the buggy constructor fails (contradicting `ConstructRoot.construct_isSome`),
    the repaired one succeeds with the spec root. -/
example :
    tD12.wf = true ∧ WT tD12 vD12 = true ∧
    (constructUnionBuggy H0 false [.union true [.uint 1]] 0 (.un 1 (.num 5))).isSome = false ∧
    (construct H0 tD12 vD12).isSome = true ∧
    (construct H0 tD12 vD12).map (·.root H0) = some (htr H0 tD12 vD12) ∧
    -- unions of other options are built alike
    constructUnionBuggy H0 true [.uint 1] 1 (.num 5) = construct H0 (.union true [.uint 1]) (.un 1 (.num 5)) := by
  decide +kernel

/-! ## D13 — offsets beyond the scope were used as element sizes before being rejected
(fix 8a7278b, property C09).
The set of accepted inputs is the same before and after the fix (`deserVarNTrace_result_eq` below:
the offsets end with the scope and must be non-decreasing, so an offset beyond the scope is always
rejected *eventually*), hence no input/output property distinguishes the two.  The difference is
resource usage: the pre-fix loop called the element decoder with a scope larger than the whole
input, and the element decoder then built that many elements from an exhausted stream.
`deserVarNTrace check` is `Impl.deserVarN` instrumented to record the scopes passed to the element
decoder; `check = true` is the repaired loop, `check = false` the pre-fix loop. -/

def deserVarNTrace (check : Bool) (dec : Dec) (emin emax scope : Nat) :
    List Nat → Stream → List Nat × Option (List Val × Stream)
  | start :: stop :: rest, s =>
    if stop < start then ([], none)
    else if check && stop > scope then ([], none)                          -- the check added by the fix
    else if !(emin ≤ stop - start && stop - start ≤ emax) then ([], none)
    else
      match dec s (stop - start) with
      | none => ([stop - start], none)
      | some (v, s1) =>
        let r := deserVarNTrace check dec emin emax scope (stop :: rest) s1
        ((stop - start) :: r.1,
          match r.2 with
          | none => none
          | some (vs, s2) => some (v :: vs, s2))
  | _, s => ([], some ([], s))

/-- one round of the loop, results only -/
theorem deserVarNTrace_snd_cons_cons (check : Bool) (dec : Dec) (emin emax scope start stop : Nat)
    (rest : List Nat) (s : Stream) :
    (deserVarNTrace check dec emin emax scope (start :: stop :: rest) s).2 =
      if stop < start then none
      else if check && stop > scope then none
      else if !(emin ≤ stop - start && stop - start ≤ emax) then none
      else (dec s (stop - start)).bind fun p =>
        (deserVarNTrace check dec emin emax scope (stop :: rest) p.2).2.map fun q => (p.1 :: q.1, q.2) := by
  simp only [deserVarNTrace, apply_ite Prod.snd]
  cases dec s (stop - start) with
  | none => rfl
  | some p =>
    simp only [Option.bind_some]
    generalize (deserVarNTrace check dec emin emax scope (stop :: rest) p.2).2 = r
    cases r <;> rfl

/-- the instrumented repaired loop computes `Impl.deserVarN` -/
theorem deserVarNTrace_true (dec : Dec) (emin emax scope : Nat) (offs : List Nat) (s : Stream) :
    (deserVarNTrace true dec emin emax scope offs s).2 = deserVarN dec emin emax scope offs s := by
  induction offs generalizing s with
  | nil => rfl
  | cons start tl ih =>
    cases tl with
    | nil => rfl
    | cons stop rest =>
      rw [deserVarNTrace_snd_cons_cons, deserVarN]
      simp only [ih, Bool.true_and, decide_eq_true_eq]
      cases dec s (stop - start) with
      | none => rfl
      | some p =>
        simp only [Option.bind_some]
        generalize deserVarN dec emin emax scope (stop :: rest) p.2 = r
        cases r <;> rfl

/-- D13 witness: `Vector[List[uint8,1000],2]`, 10 input bytes `08000000 f4010000 aabb`
    (offsets 8 and 500, scope 10).  Both loops reject the input, but the pre-fix loop first calls the
    element decoder with scope 492 — far beyond the 10 bytes of input — and that call "succeeds",
    building 492 elements out of the 2 bytes left in the stream; the repaired loop never calls the
    element decoder. -/
example :
    let dec := deser (.list (.uint 1) 1000)
    (deserVarNTrace true dec 0 1000 10 [8, 500, 10] [0xaa, 0xbb]).2.isSome = false ∧
    (deserVarNTrace false dec 0 1000 10 [8, 500, 10] [0xaa, 0xbb]).2.isSome = false ∧
    (deserVarNTrace true dec 0 1000 10 [8, 500, 10] [0xaa, 0xbb]).1 = [] ∧
    (deserVarNTrace false dec 0 1000 10 [8, 500, 10] [0xaa, 0xbb]).1 = [492] ∧
    (dec [0xaa, 0xbb] 492).isSome = true ∧
    -- the whole decoder of the repaired model rejects the input as well
    (deser (.vector (.list (.uint 1) 1000) 2) [8, 0, 0, 0, 0xf4, 1, 0, 0, 0xaa, 0xbb] 10).isSome = false := by
  decide +kernel

/-- a start offset beyond the scope is always rejected by the pre-fix loop when the offsets end
    with the scope (the sequence would have to decrease somewhere) -/
theorem deserVarNTrace_false_none (dec : Dec) (emin emax scope : Nat) (start : Nat) (tl : List Nat)
    (s : Stream) (hgt : start > scope) (hlast : (start :: tl).getLast? = some scope) :
    (deserVarNTrace false dec emin emax scope (start :: tl) s).2 = none := by
  induction tl generalizing start s with
  | nil =>
    cases hlast
    exact absurd hgt (Nat.lt_irrefl _)
  | cons stop rest ih =>
    rw [List.getLast?_cons_cons] at hlast
    rw [deserVarNTrace_snd_cons_cons]
    by_cases h1 : stop < start
    · exact if_pos h1
    · simp [fun s' => ih stop s' (Nat.lt_of_lt_of_le hgt (Nat.le_of_not_lt h1)) hlast]

/-- D13, the equivalence in general: on offset lists that end with the scope (the only ones the
    sequence decoder builds: `first :: more ++ [scope]`), the pre-fix loop and the repaired loop
    return the same result — they differ only in the recorded calls of the element decoder. -/
theorem deserVarNTrace_result_eq (dec : Dec) (emin emax scope : Nat) (offs : List Nat) (s : Stream)
    (hlast : offs.getLast? = some scope) :
    (deserVarNTrace false dec emin emax scope offs s).2 = (deserVarNTrace true dec emin emax scope offs s).2 := by
  induction offs generalizing s with
  | nil => cases hlast
  | cons start tl ih =>
    cases tl with
    | nil => rfl
    | cons stop rest =>
      rw [List.getLast?_cons_cons] at hlast
      rw [deserVarNTrace_snd_cons_cons, deserVarNTrace_snd_cons_cons]
      by_cases hgt : stop > scope
      · -- the repaired loop rejects here; the pre-fix loop rejects here or later
        simp [hgt, fun s' => deserVarNTrace_false_none dec emin emax scope stop rest s' hgt hlast]
      · simp [hgt, fun s' => ih s' hlast]

/-- so the pre-fix loop, too, computes `Impl.deserVarN` on the offset lists the decoder builds -/
theorem deserVarN_prefix_same_result (dec : Dec) (emin emax scope : Nat) (offs : List Nat) (s : Stream)
    (hlast : offs.getLast? = some scope) :
    (deserVarNTrace false dec emin emax scope offs s).2 = deserVarN dec emin emax scope offs s := by
  rw [deserVarNTrace_result_eq dec emin emax scope offs s hlast, deserVarNTrace_true]

/-! ## D15 — `VirtualNode.setter(expand=True)` on a lazily loaded zero-summary LEAF did not expand (C20) -/

/-- a source that knows no pair at all: every key is a leaf -/
def d15Src : Virtual.Src := fun _ => none

/-- the lazily loaded leaf holding the zero hash of depth 1, written at gindex 2 with `expand`: the materialised
    leaf is expanded (`setter`), the repaired virtual `setter` agrees (`setterM`), the unrepaired one refused -/
example :
    (setter H0 (.leaf (zeroHash H0 1)) 2 true (.leaf [9])).map (·.root H0)
      = (Virtual.setterM H0 d15Src (.virt (zeroHash H0 1)) 2 true (.leaf [9])).map (Virtual.MNode.root H0) ∧
    (Virtual.setterM H0 d15Src (.virt (zeroHash H0 1)) 2 true (.leaf [9])).isSome = true ∧
    Virtual.setterMUnrepaired H0 d15Src (.virt (zeroHash H0 1)) 2 true (.leaf [9]) = none := by decide +kernel

/-! ## D16 — `ByteList / '__len__'` was refused although the SSZ text gives byte lists the length key (C08) -/

/-- the SSZ generalized index of the length of a byte list is `2·root + 1`, exactly as for lists and bit lists; the
    repaired library (and `Impl.pathGindex`) agrees, also below other path steps -/
example :
    Spec.gindex 1 (some (.bytelist 40)) [.len] = some 3 ∧
    Impl.pathGindex (.bytelist 40) [.len] = some 3 ∧
    Impl.pathGindex (.container [.uint 1, .bytelist 40]) [.idx 1, .len] = some 7 ∧
    Impl.pathGindex (.bytevector 40) [.len] = none := by decide +kernel

/-! ## D17 — a view whose super view refused a change stayed changed (C14); D18 — a union value view of an option that
    is no longer selected was written back (C14 / C05 / C01) -/

/-- `set_backing` as it was before D17: the new backing is assigned first, then the hook runs; when the hook raises
    the exception propagates and the view KEEPS the new backing (the repaired code, `Impl.setBacking`, yields no new
    state at all). Result: the store left behind, and whether the operation raised. -/
def setBackingUnrepaired (H : Hash) : Nat → Impl.Store → Nat → Node → Impl.Store × Bool
  | 0, s, _, _ => (s, true)
  | fuel+1, s, r, n =>
    match s[r]? with
    | none => (s, true)
    | some o =>
      let s1 := s.set r { o with backing := n }
      match o.hook with
      | none => (s1, false)
      | some (p, key) =>
        match s1[p]? with
        | none => (s1, true)
        | some po =>
          match Impl.setChildNode H po.ty po.backing key n with
          | none => (s1, true)          -- the super view refuses: raised, but `r` stays changed
          | some pn => setBackingUnrepaired H fuel s1 p pn

private def d17Ty : Ty := .list (.container [.uint 1]) 4

/-- a list of two containers; the element view of index 1 is held, the list is popped, then the held view is written:
    the repaired semantics yields no new state; the unrepaired one raised as well but left the held view changed -/
private def d17 : Option (Bool × Bool × Bool) := do
  let b ← Impl.construct H0 d17Ty (.seq [.seq [.num 1], .seq [.num 2]])
  let s1 ← Impl.step H0 [⟨d17Ty, b, none⟩] (.child 0 1)
  let s2 ← Impl.step H0 s1 (.mutate 0 .pop)
  let c ← s2[1]?
  let n ← Impl.apply H0 c.ty c.backing (.set 0 (.num 9))
  let (s3, raised) := setBackingUnrepaired H0 2 s2 1 n
  let c' ← s3[1]?
  pure ((Impl.step H0 s2 (.mutate 1 (.set 0 (.num 9)))).isNone, raised, c'.backing.root H0 != c.backing.root H0)

example : d17 = some (true, true, true) := by decide +kernel

private def d18Ty : Ty := .union false [.list (.uint 1) 4, .container [.uint 1]]

/-- the union holds option 0; its value view is taken; the union is changed to option 1 through the parent; an append
    through the old value view: the unguarded hook (`Impl.step`, the code before D18) lets it through and the union then
    holds, under selector 1, a node that is not the tree of any value of option 1's type read back as such —
    the guarded store (`Impl.stepG`, the repaired code) refuses -/
private def d18 : Option (Bool × Bool × Option Nat) := do
  let b ← Impl.construct H0 d18Ty (.un 0 (.seq [.num 1]))
  let g : Impl.GStore := { views := [⟨d18Ty, b, none⟩], sels := [none] }
  let g1 ← Impl.stepG H0 g (.child 0 0)
  let g2 ← Impl.stepG H0 g1 (.mutate 0 (.change 1 (.seq [.num 7])))
  let parent ← g2.views[0]?
  pure ((Impl.stepG H0 g2 (.mutate 1 (.append (.num 2)))).isNone,
        (Impl.step H0 g2.views (.mutate 1 (.append (.num 2)))).isSome,
        Impl.unionSel H0 parent.backing)

example : d18 = some (true, true, some 1) := by decide +kernel

end Rmk.Defects
