/-
C17 — Partial trees: summaries keep the root, excluded data is never misread.
First for reads and writes by path on the tree (`Summ`), then for whole views (read, serialise,
mutate), element-wise reads, writes nested in a child view, and the object export.
-/
import Rmk.Proofs.TreeLaws
import Rmk.Proofs.PartialViews
import Rmk.Proofs.ElemLaws
import Rmk.Proofs.PartialNested
import Rmk.Proofs.ObjTreePartial
namespace Rmk.C17
open Rmk

/-- Replacing any subtrees by bare summaries of their roots keeps the root. -/
theorem root_unchanged (H : Hash) (a b : Node) (h : Summ H a b) : a.root H = b.root H := h.root_eq

/-- `summarize_into` produces such a partial tree. -/
theorem summarize_is_summ (H : Hash) (n : Node) (p : List Bool) (m : Node)
    (h : summarizePath H n p = some m) : Summ H m n := summarizePath_summ H n p m h

/-- A read on the partial tree either fails with a navigation error (`none`) or returns the
    (possibly partial) subtree that the complete tree has at that position: never wrong data. -/
theorem read_agrees (H : Hash) (a b : Node) (h : Summ H a b) (p : List Bool) :
    getPath a p = none ∨ ∃ x y, getPath a p = some x ∧ getPath b p = some y ∧ Summ H x y ∧
      x.root H = y.root H := by
  cases hx : getPath a p with
  | none => exact .inl rfl
  | some x =>
    obtain ⟨y, hy, hs⟩ := h.getPath p x hx
    exact .inr ⟨x, y, rfl, hy, hs, hs.root_eq⟩

/-- A write on the partial tree either fails with a navigation error or gives the partial version
    of the result of the same write on the complete tree: in particular the roots after the write
    are equal. -/
theorem write_agrees (H : Hash) (a b : Node) (h : Summ H a b) (p : List Bool) (v : Node) :
    setPath H false a p v = none ∨ ∃ a' b', setPath H false a p v = some a' ∧
      setPath H false b p v = some b' ∧ Summ H a' b' ∧ a'.root H = b'.root H := by
  cases hx : setPath H false a p v with
  | none => exact .inl rfl
  | some a' =>
    obtain ⟨b', hb, hs⟩ := h.setPath p v a' hx
    exact .inr ⟨a', b', rfl, hb, hs, hs.root_eq⟩

/-- A write with expansion never turns an excluded (non-zero) summary into data: it fails. -/
theorem write_expand_excluded_fails (H : Hash) (a : Node) (q r : List Bool) (b : Bool) (c : Chunk) (v : Node)
    (hg : getPath a q = some (.leaf c)) (hc : c ≠ zeroHash H (r.length + 1)) :
    setPath H true a (q ++ b :: r) v = none := setPath_expand_nonzero H a q r b c v hg hc

/-- A complete read of a view over a partial tree either fails (navigation into an excluded subtree)
    or returns exactly what the complete tree returns: excluded data is never misread. -/
theorem view_read (H : Hash) (t : Ty) (a b : Node) (h : Summ H a b) :
    Impl.readVal H t a = none ∨ Impl.readVal H t a = Impl.readVal H t b :=
  PartialViews.summ_readVal H t a b h

/-- the same for serialisation -/
theorem view_serialize (H : Hash) (t : Ty) (a b : Node) (h : Summ H a b) :
    Impl.serTree H t a = none ∨ Impl.serTree H t a = Impl.serTree H t b :=
  PartialViews.summ_serTree H t a b h

/-- Every mutation of the public interface except `append` (which expands zero summaries), on a view
    over a partial tree, either fails or gives the partial version of the result on the complete
    tree — so the roots after the write are equal.  No hypothesis on the hash. -/
theorem view_write (H : Hash) (t : Ty) (a b : Node) (op : Impl.Op) (h : Summ H a b)
    (hop : ∀ v, op ≠ .append v) :
    Impl.apply H t a op = none ∨ ∃ a' b', Impl.apply H t a op = some a' ∧
      Impl.apply H t b op = some b' ∧ Summ H a' b' :=
  PartialViews.summ_apply_partial H t a b op h hop

/-- …and `append` too, under the explicit hypothesis that nothing but two zero hashes of height `d`
    hashes to the zero hash of height `d+1` (implied by collision-freeness; without it the statement
    is FALSE for a contrived hash: `PartialViews.append_counterexample`). -/
theorem view_write_all (H : Hash) (hZ : PartialViews.ZeroInj H) (t : Ty) (a b : Node) (op : Impl.Op)
    (h : Summ H a b) :
    Impl.apply H t a op = none ∨ ∃ a' b', Impl.apply H t a op = some a' ∧
      Impl.apply H t b op = some b' ∧ Summ H a' b' :=
  PartialViews.summ_apply H hZ t a b op h

/-- summarising further positions keeps the relation to the complete tree -/
theorem summarize_more (H : Hash) (a a' b : Node) (p : List Bool)
    (hs : summarizePath H a p = some a') (h : Summ H a b) : Summ H a' b :=
  (summarizePath_summ H a p a' hs).trans h

private def H0 : Hash := fun a b => a ++ b
private def full : Node := .pair (.pair (.leaf [1]) (.leaf [2])) (.leaf [3])
private def part : Node := .pair (.leaf [1, 2]) (.leaf [3])
example : Summ H0 part full := .pair _ _ _ _ (.leaf (.pair (.leaf [1]) (.leaf [2]))) (.refl _)
example : getPath part [false, true] = none ∧ getPath part [true] = getPath full [true] := by decide +kernel

/-! ### element-wise reads and nested writes on partial trees -/

/-- element reads, `len()` and slice reads on a partial tree either fail or return exactly what the complete
    tree returns (never wrong data) -/
theorem elem_read (H : Hash) (t : Ty) (p n : Node) (i : Nat) (h : Summ H p n) :
    Impl.readElem H t p i = none ∨ Impl.readElem H t p i = Impl.readElem H t n i :=
  ElemLaws.readElem_summ_or H t p n i h

theorem len_read (H : Hash) (t : Ty) (p n : Node) (h : Summ H p n) :
    Impl.viewLen H t p = none ∨ Impl.viewLen H t p = Impl.viewLen H t n :=
  ElemLaws.viewLen_summ_or H t p n h

theorem slice_read (H : Hash) (t : Ty) (p n : Node) (a b : Nat) (h : Summ H p n) :
    Impl.sliceRead H t p a b = none ∨ Impl.sliceRead H t p a b = Impl.sliceRead H t n a b :=
  ElemLaws.sliceRead_summ_or H t p n a b h

/-- a mutation THROUGH A CHILD VIEW of a partial tree (child taken at key `i`, mutated, written back) either fails
    or succeeds on the complete tree too, with results that are again partial / complete versions of each other
    and have the same root (every mutator but `append`, no hypothesis on the hash) -/
theorem nested_write (H : Hash) (t : Ty) (p n : Node) (i : Nat) (op : Impl.Op)
    (hop : ∀ v, op ≠ .append v) (h : Summ H p n) :
    PartialNested.subApply H t p i op = none ∨ ∃ p' n', PartialNested.subApply H t p i op = some p' ∧
      PartialNested.subApply H t n i op = some n' ∧ Summ H p' n' ∧ p'.root H = n'.root H := by
  cases hs : PartialNested.subApply H t p i op with
  | none => exact .inl rfl
  | some p' =>
    obtain ⟨n', hn', hsum⟩ := PartialNested.subApply_summ hop h hs
    exact .inr ⟨p', n', rfl, hn', hsum, hsum.root_eq⟩

/-- all mutators, `append` included, when no non-zero subtree hashes like a zero subtree -/
theorem nested_write_all (H : Hash) (hZ : PartialViews.ZeroInj H) (t : Ty) (p n : Node) (i : Nat) (op : Impl.Op) (p' : Node)
    (h : Summ H p n) (hs : PartialNested.subApply H t p i op = some p') :
    ∃ n', PartialNested.subApply H t n i op = some n' ∧ Summ H p' n' :=
  PartialNested.subApply_summ_all hZ h hs

/-- obtaining a child VIEW of a partial tree (`childroot` in the protocol): when it succeeds, the complete tree has a
    child of the same type there, the partial tree's child is a partial version of it — in particular it has the same
    root, whatever is summarised below or AT the child's own root -/
theorem child_view (H : Hash) (t : Ty) (p n : Node) (i : Nat) (ct : Ty) (cp : Node) (h : Summ H p n)
    (hc : Impl.childOf H t p i = some (ct, cp)) :
    ∃ cn, Impl.childOf H t n i = some (ct, cn) ∧ Summ H cp cn ∧ cp.root H = cn.root H := by
  obtain ⟨cn, h1, h2⟩ := PartialNested.childOf_summ h hc
  exact ⟨cn, h1, h2, h2.root_eq⟩

/-- Object export of a partial tree: `to_obj()` as the library computes it (read-only iterators over the tree, the
    tree-reading serialiser) on a tree in which ANY subtrees were summarised either raises or returns exactly the export of
    the complete value — excluded data is never misread into an export.  (The `Repr` hypothesis is on the COMPLETE tree.) -/
theorem export_partial (H : Hash) (t : Ty) (v : Val) (p n : Node) (hwf : t.wf = true)
    (hlim : ReprBasics.limitsOk t = true) (hs : Summ H p n) (h : Impl.Repr H t v n) :
    Impl.toObjTree H t p = none ∨ Impl.toObjTree H t p = some (Obj.toObj t v) :=
  ObjTreePartial.toObjTree_summ_repr H t v p n hwf hlim hs h

/-- … in particular it fails or agrees with the export computed on the complete tree -/
theorem export_partial_agrees (H : Hash) (t : Ty) (v : Val) (p n : Node) (hwf : t.wf = true)
    (hlim : ReprBasics.limitsOk t = true) (hs : Summ H p n) (h : Impl.Repr H t v n) :
    Impl.toObjTree H t p = none ∨ Impl.toObjTree H t p = Impl.toObjTree H t n :=
  (export_partial H t v p n hwf hlim hs h).imp_right (·.trans (ObjTreeLaws.toObjTree_repr H t v n hwf hlim h).symm)

end Rmk.C17
