/-
C11 — Type size facts are exact and values report their true byte length.
The size functions `Spec.isFixed / fixedLen / minLen / maxLen` are what the library's
`is_fixed_byte_length / type_byte_length / min_byte_length / max_byte_length` compute (checked by the
correspondence on every run); the theorems tie them to the lengths of actual encodings.
-/
import Rmk.Proofs.Sizes
import Rmk.Proofs.ByteLengthLaws
namespace Rmk.C11
open Rmk

/-- every encoding of a value of a fixed-size type has exactly the fixed length -/
theorem fixed_length (t : Ty) (v : Val) (hwf : t.wf = true) (hwt : WT t v = true)
    (hf : Spec.isFixed t = true) : (Spec.serialize t v).length = Spec.fixedLen t :=
  serialize_fixed t v hwf hwt hf

/-- every encoding lies within the type's bounds -/
theorem bounds (t : Ty) (v : Val) (hwf : t.wf = true) (hwt : WT t v = true) :
    Spec.minLen t ≤ (Spec.serialize t v).length ∧ (Spec.serialize t v).length ≤ Spec.maxLen t :=
  serialize_bounds t v hwf hwt

/-- the bounds are exact: both are attained by some valid value -/
theorem tight (t : Ty) (hwf : t.wf = true) :
    (∃ v, WT t v = true ∧ (Spec.serialize t v).length = Spec.minLen t) ∧
    (∃ v, WT t v = true ∧ (Spec.serialize t v).length = Spec.maxLen t) :=
  ⟨⟨minVal t, Sizes.minVal_spec t hwf⟩, ⟨maxVal t, Sizes.maxVal_spec t hwf⟩⟩

/-- for fixed-size types minimum, maximum and fixed length coincide, and are positive -/
theorem fixed_min_max (t : Ty) (hwf : t.wf = true) (hf : Spec.isFixed t = true) :
    Spec.minLen t = Spec.fixedLen t ∧ Spec.maxLen t = Spec.fixedLen t ∧ 0 < Spec.fixedLen t :=
  ⟨(Rmk.fixed_min_max t hwf hf).1, (Rmk.fixed_min_max t hwf hf).2, fixedLen_pos t hwf hf⟩

/-- `value_byte_length()` — computed by the library with its own recursion over the view, not by
    serialising — equals the length of the actual encoding, for every tree that represents the value;
    hence it lies within the type's bounds and equals the fixed length for fixed-size types. -/
theorem value_byte_length (H : Hash) (t : Ty) (v : Val) (n : Node) (hwf : t.wf = true)
    (hlim : ReprBasics.limitsOk t = true) (h : Impl.Repr H t v n) :
    Impl.valueByteLength H t n = some (Spec.serialize t v).length :=
  ByteLengthLaws.repr_vbl H t v n hwf hlim h

private def t0 : Ty := .container [.uint 2, .list (.uint 1) 5, .bitlist 9]
example : t0.wf = true ∧ WT t0 (.seq [.num 7, .seq [.num 1, .num 2], .bits [true]]) = true ∧
    Spec.minLen t0 = 11 ∧ Spec.maxLen t0 = 17 ∧
    (Spec.serialize t0 (.seq [.num 7, .seq [.num 1, .num 2], .bits [true]])).length = 13 := by decide +kernel

end Rmk.C11
