/-
C05 — Mutations through child views propagate to every enclosing view.
C06 — (store level) copies are independent.
C14 — (store level) a failing operation yields no new state.
-/
import Rmk.Proofs.StoreLaws
import Rmk.Proofs.StoreContent
import Rmk.Proofs.StoreGuardLaws
namespace Rmk.C05
open Rmk Rmk.Impl Rmk.StoreLaws

/-- After a mutation through ANY held view `r`, the view itself has the new backing, and for every
    view `c` on the chain from `r` to its root view (with hook `(p, key)`), the enclosing view `p`
    has, at `key`, exactly the updated child: the change is reflected all the way up, whatever other
    views are held and in whatever order they were mutated (the theorem is about one arbitrary step
    from an arbitrary valid store). -/
theorem propagates (H : Hash) (s : Store) (r : Nat) (op : Op) (s' : Store)
    (hv : Valid s) (h : step H s (.mutate r op) = some s') :
    (∃ o n, s[r]? = some o ∧ apply H o.ty o.backing op = some n ∧ s'[r]? = some { o with backing := n }) ∧
    (∀ c ∈ chain s r, ∀ (oc : VObj) (p key : Nat) (po : VObj) (x : Node),
      s[c]? = some oc → oc.hook = some (p, key) → s[p]? = some po → KeyOk po.ty key →
      childOf H po.ty po.backing key = some (oc.ty, x) →
      ∃ oc' po', s'[c]? = some oc' ∧ s'[p]? = some po' ∧ oc'.ty = oc.ty ∧ po'.ty = po.ty ∧
        childOf H po'.ty po'.backing key = some (oc'.ty, oc'.backing)) := by
  obtain ⟨o, n, hr, ha, hsb⟩ := step_mutate_eq.1 h
  obtain ⟨⟨o', ho', hs'⟩, hch⟩ := setBacking_propagates_aux H (r + 1) s r n s' hv hsb
  rw [hr] at ho'
  cases ho'
  exact ⟨⟨o, n, hr, ha, hs'⟩, hch⟩

/-- Content: in a store whose views represent values coherently along the chain of `r` (each child's
    value is its parent's sub-value at the hook key), after a mutation through `r` EVERY enclosing
    view — at any nesting depth — has exactly its old value with the updated sub-value put in at the
    key path, and its root, its content read through the view API and its encoding are those of that
    updated value.  (Only the chain needs to be coherent: stale sibling views are irrelevant.) -/
theorem content (H : Hash) (s : Store) (r : Nat) (op : Op) (s' : Store)
    (val : Nat → Val) (hv : Valid s) (hco : StoreContent.CoherentOn H s val (· ∈ chain s r))
    (h : step H s (.mutate r op) = some s') :
    ∃ (o : VObj) (new : Val), s[r]? = some o ∧ Spec.applyOp o.ty (val r) op = some new ∧
      ∀ x ∈ StoreContent.pathsTo s (r + 1) r, ∀ oc, s[x.1]? = some oc →
        ∃ oc' v', s'[x.1]? = some oc' ∧ oc'.ty = oc.ty ∧ oc'.hook = oc.hook ∧
          StoreContent.updateAt x.2 oc.ty (val x.1) new = some v' ∧
          oc'.backing.root H = Spec.htr H oc.ty v' ∧
          readVal H oc.ty oc'.backing = some v' ∧
          serTree H oc.ty oc'.backing = some (Spec.serialize oc.ty v', (Spec.serialize oc.ty v').length) := by
  obtain ⟨o, new, val', hr, hop, _, _, hcl, hco'⟩ := StoreContent.mutate_chain_content H s r op s' val hv hco h
  refine ⟨o, new, hr, hop, ?_⟩
  intro x hx oc hoc
  obtain ⟨-, -, hty, hhk⟩ := step_mutate_shape H s r op s' h
  obtain ⟨oc', hoc', h1⟩ := StoreContent.getElem?_of_map_eq (hty x.1) hoc
  have h2 := hhk x.1
  rw [hoc, hoc'] at h2
  simp only [Option.map_some, Option.some.injEq] at h2
  have hxc : x.1 ∈ chainAux s (r + 1) r := StoreContent.pathsTo_fst s (r + 1) r ▸ List.mem_map_of_mem hx
  obtain ⟨w1, w2, w3, _⟩ := hco' x.1 oc' hxc hoc'
  rw [h1] at w1 w2 w3
  exact ⟨oc', val' x.1, hoc', h1, h2, (hcl x hx oc hoc).2, ReprBasics.repr_root H _ _ _ w1 w3,
    ReprBasics.repr_read H _ _ _ w1 w2 w3, SerTree.repr_ser H _ _ _ w1 w2 w3⟩

/-- …and nothing else changes: views that are not on that chain (siblings, other subtrees, copies)
    are exactly as before. -/
theorem frame (H : Hash) (s : Store) (r : Nat) (op : Op) (s' : Store)
    (h : step H s (.mutate r op) = some s') (q : Nat) (hq : q ∉ chain s r) : s'[q]? = s[q]? :=
  mutate_frame H s r op s' h q hq

/-- the other children of an enclosing view are untouched by the hook -/
theorem siblings_untouched (H : Hash) (t : Ty) (n : Node) (key key' : Nat) (c n' : Node)
    (h : setChildNode H t n key c = some n') (hk : InRange t key) (hk' : InRange t key') (hne : key' ≠ key) :
    childOf H t n' key' = childOf H t n key' := by
  have hu : ∀ hn opts, t ≠ .union hn opts := by
    rintro hn opts rfl
    exact hne (hk'.trans hk.symm)
  have hset := setAt_of_setChildNode hu h
  rw [childOf_eq H t n' key' hu, childOf_eq H t n key' hu, childTy_setAt hk.keyOk hset,
    getAt_setAt_other hset (Ne.symm hne)]

/-- validity of the store (hooks point to earlier views) is an invariant of every operation -/
theorem valid_invariant (H : Hash) (s : Store) (op : SOp) (s' : Store)
    (hv : Valid s) (h : step H s op = some s') : Valid s' := step_valid H s op s' hv h

/-- C06 at the store level: a copy has the same content and no hook; mutating the copy never changes
    any other view, and mutating any other view never changes the copy — for whole later histories. -/
theorem copies_independent (H : Hash) (s : Store) (r : Nat) (s1 : Store)
    (hv : Valid s) (h : step H s (.copy r) = some s1) (ops : List SOp) (s2 : Store)
    (h2 : run H s1 ops = some s2) :
    (Avoids H s.length s1 ops → s2[s.length]? = s1[s.length]?) ∧
    (Within H s.length s1 ops → ∀ q : Nat, q < s.length → s2[q]? = s[q]?) := by
  have hv1 := step_valid H s _ s1 hv h
  obtain ⟨o, _, hl, hk, hold, _, _⟩ := copy_independent H s r s1 hv h
  have hlt : s.length < s1.length := hl ▸ Nat.lt_succ_self _
  refine ⟨fun ha => run_avoids_unchanged H s.length ops s1 s2 hv1 hlt ha h2, ?_⟩
  intro hw q hq
  rw [run_within_unchanged H s.length ops s1 s2 hv1 hlt (hookOf_of_get hk) hw h2 q hq]
  exact hold q hq

/-- C14 at the store level: a mutation step yields a new store only if the mutation itself and every
    hook on the way up succeed; otherwise there is no new state (the caller keeps the old store). -/
theorem failed_op_no_state (H : Hash) (s : Store) (r : Nat) (op : Op) :
    step H s (.mutate r op) = none ↔
      s[r]? = none ∨ ∃ o, s[r]? = some o ∧
        (apply H o.ty o.backing op = none ∨
         ∃ n, apply H o.ty o.backing op = some n ∧ setBacking H (r + 1) s r n = none) :=
  step_mutate_eq_none_iff H s r op

/-! ### the guarded store (`Impl/StoreGuard.lean`): value views of a union remember the selector they were handed out
    for; a write through a view of an option that is no longer selected is refused (D18) -/

/-- every step of the guarded store is a step of the store semantics above: `propagates`, `content`, `frame`,
    `copies_independent`, `valid_invariant` all apply to it; the guard only adds failures -/
theorem guarded_refines (H : Hash) (g g' : GStore) (op : SOp) (h : stepG H g op = some g') :
    step H g.views op = some g'.views := StoreGuardLaws.stepG_refines H g g' op h

/-- …and it adds a failure exactly when some hook on the way up is stale -/
theorem guarded_eq_unless_stale (H : Hash) (g : GStore) (r : Nat) (op : Op)
    (h : staleChain H g.views g.sels (r + 1) r = false) :
    (stepG H g (.mutate r op)).map (·.views) = step H g.views (.mutate r op) :=
  StoreGuardLaws.stepG_of_not_stale H g r op h

/-- C14 at the store level: a write through a view whose union parent has moved on raises (no new state) -/
theorem stale_write_refused (H : Hash) (g : GStore) (r : Nat) (op : Op)
    (h : staleChain H g.views g.sels (r + 1) r = true) : stepG H g (.mutate r op) = none :=
  StoreGuardLaws.stale_refused H g r op h

/-- Type safety of union write-back, for whole histories: starting from one root view, after any history of guarded
    steps every union value view still remembers a selector that designates the option of the view's own type, and
    every write that is let through stores, in every union on the way up, a node of the type of the option that union
    has selected NOW. -/
theorem guarded_union_write_typed (H : Hash) (o : VObj) (ho : o.hook = none) (ops : List SOp) (g : GStore)
    (hrun : runG H { views := [o], sels := [none] } ops = some g)
    (r : Nat) (op : Op) (g' : GStore) (h : stepG H g (.mutate r op) = some g')
    (c : Nat) (oc po : VObj) (p key : Nat) (hasNone : Bool) (opts : List Ty)
    (hmem : c ∈ chain g.views r) (hc : g.views[c]? = some oc) (hh : oc.hook = some (p, key))
    (hp : g.views[p]? = some po) (hu : po.ty = .union hasNone opts) :
    ∃ sel, unionSel H po.backing = some sel ∧ Spec.optType hasNone opts sel = some oc.ty := by
  obtain ⟨_, _, ht⟩ := StoreGuardLaws.selTyped_run H ops { views := [o], sels := [none] } g (valid_singleton o ho) rfl
    (StoreGuardLaws.selTyped_init H o ho) hrun
  exact StoreGuardLaws.guarded_write_selected_option_chain H g g' r op c oc po p key hasNone opts ht h hmem hc hh hp hu

end Rmk.C05
