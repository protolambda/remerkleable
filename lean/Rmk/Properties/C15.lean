/-
C15 — All read paths agree with each other and with equality / hashing.
-/
import Rmk.Proofs.NodeIter
import Rmk.Proofs.DiffHistory
import Rmk.Proofs.ItersLaws
import Rmk.Proofs.ReprBasics
import Rmk.Proofs.RootInjective
import Rmk.Proofs.ElemLaws
namespace Rmk.C15
open Rmk

/-- The stack-machine iterator (`readonly_iters.NodeIter`, the engine of read-only iteration,
    container iteration, packed and bit iteration) yields exactly the nodes that navigation by index
    (`getter(to_gindex(i, depth))`, the engine of `get` / slicing / plain iteration) returns, in
    order, for EVERY depth and EVERY length — all subtree boundaries included. -/
theorem iter_eq_index (anchor : Node) (depth length : Nat) (nodes : List Node)
    (hlen : length ≤ 2 ^ depth)
    (h : ∀ i, i < length → Impl.getAt anchor i depth = some (nodes.getD i default))
    (hn : nodes.length = length) : Impl.nodeIter anchor depth length = some nodes :=
  nodeIter_eq_getAt anchor depth length nodes hlen h hn

/-- …and conversely: whatever the iterator yields is what indexing returns (it never yields
    anything else), it succeeds exactly when every indexed read succeeds. -/
theorem iter_sound (anchor : Node) (depth length : Nat) (nodes : List Node)
    (h : Impl.nodeIter anchor depth length = some nodes) :
    length ≤ 2 ^ depth ∧ nodes.length = length ∧
      ∀ i, i < length → Impl.getAt anchor i depth = some (nodes.getD i default) :=
  nodeIter_some_getAt anchor depth length nodes h

/-- The PACKED iterator (read-only iteration over basic elements; state `i`, `j`, `rootIndex`,
    `currentRoot`, stack — mirrored field by field) yields exactly what indexing yields, in order,
    for every element size, depth and length. -/
theorem packed_iter_eq_index (H : Hash) (et : Ty) (anchor : Node) (depth length : Nat)
    (f : Nat → Val) (hsz : 0 < et.basicSize) (hsz32 : et.basicSize ≤ 32)
    (hlen : length ≤ 2 ^ depth * (32 / et.basicSize))
    (hleaf : ∀ c, c * (32 / et.basicSize) < length →
      ∃ n, Impl.getAt anchor c depth = some n ∧ n.isLeaf = true)
    (hdec : ∀ i, i < length →
      ((Impl.getAt anchor (i / (32 / et.basicSize)) depth).bind
        fun c => Impl.readBasicAt H et c (i % (32 / et.basicSize))) = some (f i)) :
    Impl.packedIter H et anchor depth length = some ((List.range length).map f) :=
  ItersLaws.packedIter_eq_index H et anchor depth length f hsz hsz32 hlen hleaf hdec

/-- The BIT iterator (bit iteration of bitvectors / bitlists, 256 bits per chunk with wrap-around of
    the inner counter) yields exactly what bit indexing yields. -/
theorem bit_iter_eq_index (H : Hash) (anchor : Node) (depth length : Nat) (f : Nat → Bool)
    (hlen : length ≤ 2 ^ depth * 256)
    (hleaf : ∀ c, c * 256 < length → ∃ n, Impl.getAt anchor c depth = some n ∧ n.isLeaf = true)
    (hdec : ∀ i, i < length →
      (Impl.getAt anchor (i / 256) depth).map (fun c => Impl.bitOfChunk (c.root H) i) = some (f i)) :
    Impl.bitfieldIter H anchor depth length = some ((List.range length).map f) :=
  ItersLaws.bitfieldIter_eq_index H anchor depth length f hlen hleaf hdec

/-- All read paths agree on every tree that represents a value (whatever its history): the complete
    indexed read returns the value, … -/
theorem indexed_read (H : Hash) (t : Ty) (v : Val) (n : Node) (hwf : t.wf = true)
    (hlim : ReprBasics.limitsOk t = true) (h : Impl.Repr H t v n) : Impl.readVal H t n = some v :=
  ReprBasics.repr_read H t v n hwf hlim h

/-- … the packed iterator yields the elements of a packed vector / list, … -/
theorem packed_iteration (H : Hash) (et : Ty) (k : Nat) (vs : List Val) (n : Node)
    (hwf : et.wf = true) (hb : et.isBasic = true) :
    (Impl.Repr H (.vector et k) (.seq vs) n →
      Impl.packedIter H et n (getDepth (Impl.chunkLen et k)) k = some vs) ∧
    (Impl.Repr H (.list et k) (.seq vs) n →
      Impl.packedIter H et n (getDepth (Impl.chunkLen et k) + 1) vs.length = some vs) :=
  ⟨ItersLaws.reads_agree_packed_vector H et k vs n hwf hb, ItersLaws.reads_agree_packed_list H et k vs n hwf hb⟩

/-- … the bit iterator yields the bits of a bitvector / bitlist, … -/
theorem bit_iteration (H : Hash) (k : Nat) (bs : List Bool) (n : Node) :
    (Impl.Repr H (.bitvector k) (.bits bs) n →
      Impl.bitfieldIter H n (getDepth ((k + 255) / 256)) k = some bs) ∧
    (Impl.Repr H (.bitlist k) (.bits bs) n →
      ((getLeft n).bind fun l => Impl.bitfieldIter H l (getDepth ((k + 255) / 256)) bs.length)
        = some bs) :=
  ⟨ItersLaws.reads_agree_bits_vector H k bs n, ItersLaws.reads_agree_bits_list H k bs n⟩

/-- … and the node iterator (read-only iteration over composite elements, container iteration and
    unpacking) yields nodes that represent the elements / fields, in order. -/
theorem node_iteration (H : Hash) (et : Ty) (k : Nat) (fs : List Ty) (vs : List Val) (n : Node)
    (hb : et.isBasic = false) :
    (Impl.Repr H (.vector et k) (.seq vs) n →
      ∃ ns, Impl.nodeIter n (getDepth (Impl.chunkLen et k)) k = some ns ∧ Impl.AllRel (Impl.Repr H et) vs ns) ∧
    (Impl.Repr H (.list et k) (.seq vs) n →
      ∃ ns, Impl.nodeIter n (getDepth (Impl.chunkLen et k) + 1) vs.length = some ns ∧
        Impl.AllRel (Impl.Repr H et) vs ns) ∧
    (Impl.Repr H (.container fs) (.seq vs) n →
      ∃ ns, Impl.nodeIter n (getDepth fs.length) fs.length = some ns ∧ Impl.ReprFields H fs vs ns) :=
  ⟨ItersLaws.reads_agree_unpacked_vector H et k vs n hb, ItersLaws.reads_agree_unpacked_list H et k vs n hb,
    ItersLaws.reads_agree_container H fs vs n⟩

/-- `==` is equality of roots (its definition in the library); with a collision-free hash equal
    roots give equal subtrees at every position that exists in both trees — so equal roots mean
    equal content. -/
theorem root_eq_content (H : Hash) (hH : Injective2 H) (p : List Bool) (a b x y : Node)
    (hr : a.root H = b.root H) (ha : getPath a p = some x) (hb : getPath b p = some y) :
    x.root H = y.root H :=
  root_getPath_of_root_eq H hH p a b x y hr ha hb

/-- Two valid values of a type have equal hash-tree-roots exactly when their contents are equal —
    under collision-freeness of the pair hash (the only hypothesis on `H`); so `==` (root equality)
    is content equality, and equal values have equal roots, hence equal hashes. -/
theorem eq_iff_content (H : Hash) (hH : Injective2 H) (t : Ty) (hwf : t.wf = true)
    (hlim : ReprBasics.limitsOk t = true) (v w : Val) (hv : WT t v = true) (hw : WT t w = true) :
    Spec.htr H t v = Spec.htr H t w ↔ v = w :=
  RootInjective.eq_iff_content H hH t hwf hlim v w hv hw

example : Impl.nodeIter (.pair (.pair (.leaf [1]) (.leaf [2])) (.pair (.leaf [3]) (.leaf [4]))) 2 3 =
    some [.leaf [1], .leaf [2], .leaf [3]] := by decide +kernel

/-! ### indexing, `len()`, in-range slicing (the element-wise view API, `Rmk/Impl/Elem.lean`) -/

/-- Indexing: `view[i]` / `view.field_i` on ANY tree that represents `v` (whatever its history) is element `i`
    of `v` … -/
theorem index_read (H : Hash) (t : Ty) (v : Val) (n : Node) (i : Nat)
    (hwf : t.wf = true) (hlim : ReprBasics.limitsOk t = true) (h : Impl.Repr H t v n) :
    Impl.readElem H t n i = Impl.elemAt v i :=
  ElemLaws.readElem_repr H t v n i hwf hlim h

/-- … and fails exactly when the index is out of range, -/
theorem index_fails_iff_out_of_range (H : Hash) (t : Ty) (v : Val) (n : Node) (i len : Nat)
    (hwf : t.wf = true) (hlim : ReprBasics.limitsOk t = true) (hk : ElemLaws.indexable t = true)
    (h : Impl.Repr H t v n) (hl : Impl.lenOf v = some len) :
    Impl.readElem H t n i = none ↔ len ≤ i := by
  rw [ElemLaws.readElem_repr H t v n i hwf hlim h]
  constructor
  · intro hn
    apply Nat.le_of_not_lt
    intro hi
    obtain ⟨x, hx⟩ := ElemLaws.elemAt_isSome_of_lt (ElemLaws.repr_indexable_val H t v n hk h) hl hi
    rw [hx] at hn; cases hn
  · exact ElemLaws.elemAt_none_of_ge hl

/-- `len(view)` is the number of elements of the value, -/
theorem len_read (H : Hash) (t : Ty) (v : Val) (n : Node) (hlim : ReprBasics.limitsOk t = true)
    (hk : ElemLaws.sized t = true) (h : Impl.Repr H t v n) : Impl.viewLen H t n = Impl.lenOf v :=
  ElemLaws.viewLen_repr H t v n hlim hk h

/-- and an in-range slice `view[a:b]` is exactly the elements `a … b-1` of the value, in order. -/
theorem slice_read (H : Hash) (t : Ty) (v : Val) (n : Node) (a b len : Nat)
    (hwf : t.wf = true) (hlim : ReprBasics.limitsOk t = true) (hk : ElemLaws.indexable t = true)
    (h : Impl.Repr H t v n) (hab : a ≤ b) (hl : Impl.lenOf v = some len) (hb : b ≤ len) :
    Impl.sliceRead H t n a b = some (((ElemLaws.elems v).drop a).take (b - a)) :=
  ElemLaws.sliceRead_repr_elems H t v n a b len hwf hlim hk h hab hl hb

end Rmk.C15
