/-
C08 — Paths yield the SSZ-spec generalized index and address the right node.
-/
import Rmk.Proofs.PathGindex
import Rmk.Proofs.PathAddress
namespace Rmk.C08
open Rmk

/-- For every well-formed type and every key sequence, the index the library computes from the type
    alone (`navigate_type` / `key_to_static_gindex` / `concat_gindices`) equals the SSZ
    `get_generalized_index`; both are undefined for exactly the same (invalid) key sequences, so keys
    that do not belong to the type are rejected when the path is built. -/
theorem static_gindex (t : Ty) (keys : List Key) (hwf : t.wf = true) :
    Impl.pathGindex t keys = Spec.gindex 1 (some t) keys :=
  pathGindex_eq_spec t keys hwf

/-- concatenating paths equals concatenating indices -/
theorem concat_paths (t t' : Ty) (ks1 ks2 : List Key) (p1 : List (Key × Option Ty))
    (hp : Impl.buildPath (some t) ks1 = some p1) (hend : pathEnd (some t) p1 = some t') :
    Impl.pathGindex t (ks1 ++ ks2) =
      (do let a ← Impl.pathGindex t ks1; let b ← Impl.pathGindex t' ks2; pure (concatGindices [a, b])) :=
  pathGindex_append t t' ks1 ks2 p1 hp hend

theorem concat_assoc (xs ys : List Nat) (h : ∀ y ∈ ys, y ≠ 0) :
    concatGindices [concatGindices xs, concatGindices ys] = concatGindices (xs ++ ys) :=
  concatGindices_assoc xs ys h

/-- navigating by a concatenated index is navigating by the first index, then by the second -/
theorem navigate_concat (n : Node) (a b : Nat) (ha : a ≠ 0) (hb : b ≠ 0) :
    getter n (concatGindices [a, b]) = (getter n a).bind (fun m => getter m b) :=
  getPath_concat n ha hb

/-- For ANY tree that represents a value (whatever its history) and any key path that is valid for
    the VALUE and stays in positions that have a node of their own: the static index is defined, the
    backing node at that index represents the addressed sub-value, and so has its hash-tree-root. -/
theorem addresses (H : Hash) (t : Ty) (v : Val) (n : Node) (keys : List Key) (t' : Ty) (v' : Val)
    (hr : Impl.Repr H t v n) (hwf : t.wf = true) (hlim : ReprBasics.limitsOk t = true)
    (hp : PathAddress.subValPath (some t) v keys = some (some t', v')) :
    ∃ g m, Impl.pathGindex t keys = some g ∧ getter n g = some m ∧ Impl.Repr H t' v' m ∧
      m.root H = Spec.htr H t' v' :=
  PathAddress.path_addresses H t v n keys t' v' hr hwf hlim hp

/-- …and when the last key addresses a PACKED element (basic element of a sequence, a bit, a byte),
    the node at the index is the leaf chunk that holds the element, and the element decodes from it. -/
theorem addresses_packed (H : Hash) (t : Ty) (v : Val) (n : Node) (keys : List Key)
    (t' : Ty) (v' : Val) (i : Nat) (cs : List Chunk) (per : Nat) (ot : Option Ty) (x : Val)
    (hr : Impl.Repr H t v n) (hwf : t.wf = true) (hlim : ReprBasics.limitsOk t = true)
    (hpath : PathAddress.subValPath (some t) v keys = some (some t', v'))
    (hp : PathAddress.packedChunks t' v' = some (cs, per))
    (hs : PathAddress.subVal t' v' (.idx i) = some (ot, x)) :
    ∃ g, ∃ hj : i / per < cs.length, Impl.pathGindex t (keys ++ [.idx i]) = some g ∧
      getter n g = some (.leaf cs[i / per]) ∧ PathAddress.elemOfChunk H t' cs[i / per] i = some x :=
  PathAddress.path_packed_addresses H t v n keys t' v' i cs per ot x hr hwf hlim hpath hp hs

example : Impl.pathGindex (.container [.uint 8, .list (.uint 2) 100]) [.idx 1, .idx 37] = some 50 ∧
    Impl.pathGindex (.container [.uint 8, .list (.uint 2) 100]) [.idx 1, .idx 100] = none := by decide +kernel

end Rmk.C08
