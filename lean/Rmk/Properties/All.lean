-- all property modules, the defect witnesses (Rmk/Defects) and proof modules, so that one import checks them all
import Rmk.Properties.C01
import Rmk.Properties.C02
import Rmk.Properties.C03
import Rmk.Properties.C04
import Rmk.Properties.C05
import Rmk.Properties.C07
import Rmk.Properties.C08
import Rmk.Properties.C10
import Rmk.Properties.C11
import Rmk.Properties.C12
import Rmk.Properties.C13
import Rmk.Properties.C15
import Rmk.Properties.C16
import Rmk.Properties.C17
import Rmk.Properties.C18
import Rmk.Properties.C19
import Rmk.Properties.C20
import Rmk.Defects
import Rmk.Proofs.ByteLengthLaws
import Rmk.Proofs.BytesLemmas
import Rmk.Proofs.ChunkTree
import Rmk.Proofs.ClassTreeLaws
import Rmk.Proofs.ConstructRoot
import Rmk.Proofs.DecodeRoundtrip
import Rmk.Proofs.DecodeSound
import Rmk.Proofs.DefaultNode
import Rmk.Proofs.DeserTreeLaws
import Rmk.Proofs.DeserWorkBound
import Rmk.Proofs.DiffHistory
import Rmk.Proofs.DiffOfWrite
import Rmk.Proofs.ElemLaws
import Rmk.Proofs.FieldsLaws
import Rmk.Proofs.Gindex
import Rmk.Proofs.HeapLaws
import Rmk.Proofs.ItersLaws
import Rmk.Proofs.Leftovers
import Rmk.Proofs.ListRel
import Rmk.Proofs.Merkle
import Rmk.Proofs.Merkleize
import Rmk.Proofs.NavVal
import Rmk.Proofs.NodeIter
import Rmk.Proofs.ObjRoundtrip
import Rmk.Proofs.ObjTreeLaws
import Rmk.Proofs.ObjTreePartial
import Rmk.Proofs.PackArith
import Rmk.Proofs.Packing
import Rmk.Proofs.PartialNested
import Rmk.Proofs.PartialViews
import Rmk.Proofs.PathAddress
import Rmk.Proofs.PathGindex
import Rmk.Proofs.PathPrefix
import Rmk.Proofs.ReprBasics
import Rmk.Proofs.RootInjective
import Rmk.Proofs.SerTree
import Rmk.Proofs.Sizes
import Rmk.Proofs.StepRepr
import Rmk.Proofs.StepReprLemmas
import Rmk.Proofs.StoreContent
import Rmk.Proofs.StoreGuardLaws
import Rmk.Proofs.StoreLaws
import Rmk.Proofs.TempViews
import Rmk.Proofs.TreeLaws
import Rmk.Proofs.TypeLemmas
import Rmk.Proofs.VblPartial
import Rmk.Proofs.VirtualApplyLaws
import Rmk.Proofs.VirtualIterLaws
import Rmk.Proofs.VirtualLaws
import Rmk.Proofs.VirtualPartial
import Rmk.Proofs.VirtualViewLaws
