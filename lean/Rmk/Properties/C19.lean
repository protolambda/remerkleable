/-
C19 — Updates share all untouched subtrees and re-hash only the changed path.
C06 — (heap level) backings are persistent: snapshots never change.
Model: Rmk/Impl/Heap.lean (cells with addresses = object identity, cached roots, hash-call counter).
-/
import Rmk.Proofs.HeapLaws
namespace Rmk.C19
open Rmk Rmk.Heap Rmk.HeapLaws

/-- the heap write refines the pure `setPath` (so all get/set laws of C07 hold for it) -/
theorem refines_setPath (H : Hash) (e : Bool) (h : Heap) (hsh : Shape h) (a v : Nat)
    (ha : a < h.cells.size) (hv : v < h.cells.size) (p : List Bool) :
    (setPathH H e h a p v).map (fun x => denote x.1 x.2) = setPath H e (denote h a) p (denote h v) :=
  denote_setPathH_eq H e hsh ha hv p

/-- Sharing: a write rebuilds only the path — at every step of the path the off-path child of the
    new cell is the very same address (object) as in the old cell; exactly `|p|` cells are new. -/
theorem shares_off_path (H : Hash) (h h' : Heap) (a a' v : Nat) (p : List Bool)
    (hs : setPathH H false h a p v = some (h', a')) :
    SharesOffPath h a h' a' p ∧ h'.cells.size = h.cells.size + p.length :=
  ⟨setPathH_shares hs, setPathH_size hs⟩

/-- a write never modifies an existing cell (not even a cache) and computes no hash -/
theorem write_is_pure_allocation (H : Hash) (e : Bool) (h h' : Heap) (a a' v : Nat) (p : List Bool)
    (hs : setPathH H e h a p v = some (h', a')) :
    h.cells.size ≤ h'.cells.size ∧ (∀ b, b < h.cells.size → h'.cells[b]? = h.cells[b]?) ∧
      h'.hashCalls = h.hashCalls :=
  ⟨(setPathH_prefix hs).size, (setPathH_prefix hs).cell, (setPathH_prefix hs).calls⟩

/-- Hash cost: computing a root performs exactly one hash per distinct uncached pair reachable … -/
theorem root_cost (H : Hash) (h : Heap) (a : Nat) :
    (merkleRoot H h a).1.hashCalls = h.hashCalls + uncached h a := merkleRoot_cost_eq H h a

/-- … so none at all when nothing changed since the last computation (also for a copy of a view or
    a view re-created from the same backing: they share the address) … -/
theorem second_root_free (H : Hash) (h : Heap) (a : Nat) :
    merkleRoot H (merkleRoot H h a).1 a = merkleRoot H h a ∧ uncached (merkleRoot H h a).1 a = 0 := by
  refine ⟨merkleRoot_idempotent H h a, ?_⟩
  have h1 := merkleRoot_cost_eq H (merkleRoot H h a).1 a
  rw [merkleRoot_idempotent] at h1
  exact Nat.add_eq_left.1 h1.symm

/-- … and after a write into a fully hashed tree at most the length of the changed path plus the
    not yet hashed pairs of the inserted sub-value. -/
theorem path_cost (H : Hash) (h h' : Heap) (a a' v : Nat) (p : List Bool)
    (hh : Hashed h a) (hv : v < h.cells.size) (hs : setPathH H false h a p v = some (h', a')) :
    (merkleRoot H h' a').1.hashCalls - h.hashCalls ≤ p.length + uncached h v :=
  setPath_then_root_cost hh hv hs

/-- the computed root is the root of the denoted tree (a cache is never stale) -/
theorem root_value (H : Hash) (h : Heap) (hw : WF H h) (a : Nat) :
    (merkleRoot H h a).2 = (denote h a).root H := merkleRoot_value hw a

/-- C06: whatever sequence of modelled operations (allocations, writes with or without expansion,
    root computations) happens later, an address that existed keeps denoting exactly the same tree,
    and its root recomputed at any later time is the old root. -/
theorem snapshots_persistent (H : Hash) (h h' : Heap) (hw : WF H h) (s : Steps H h h') (b : Nat)
    (hb : b < h.cells.size) :
    denote h' b = denote h b ∧ (merkleRoot H h' b).2 = (denote h b).root H :=
  ⟨snapshot_persistent s b hb, by rw [merkleRoot_value (s.wf hw), snapshot_persistent s b hb]⟩

/-- the only change root computation ever makes to an existing cell is filling an empty cache -/
theorem root_only_fills_caches (H : Hash) (h : Heap) (a b : Nat) (hb : b < h.cells.size) :
    (merkleRoot H h a).1.cells[b]? = h.cells[b]? ∨
      ∃ l r c, h.cells[b]? = some (Cell.pair l r none) ∧
        (merkleRoot H h a).1.cells[b]? = some (Cell.pair l r (some c)) :=
  (merkleRoot_grow H h a).cell b hb

end Rmk.C19
