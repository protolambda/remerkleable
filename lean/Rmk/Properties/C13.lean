/-
C13 — uintN operators are exact, range-checked and never wrap or widen silently.
`w` is the byte width (1,2,4,8,16,32); operands `a`, `b` are in range.  An operand is a uint of
some byte width (`width := some w'`) or a plain int (`width := none`).
-/
import Rmk.Impl.Misc
import Rmk.Proofs.Gindex
import Rmk.Impl.UintExtra
namespace Rmk.C13
open Rmk Rmk.Impl

theorem wrapN_eq (w n : Nat) : wrapN w n = if n < 2 ^ (8 * w) then some n else none := by
  unfold wrapN wrap
  rw [if_neg (Int.not_lt.2 (Int.natCast_nonneg n)), Int.toNat_natCast]
  by_cases h : n < 2 ^ (8 * w)
  · rw [if_neg (Nat.not_lt.2 ((bitLength_le_iff _ _).2 h)), if_pos h]
  · rw [if_pos (Nat.lt_of_not_le fun h' => h ((bitLength_le_iff _ _).1 h')), if_neg h]

theorem wrapN_of_lt {w n : Nat} (h : n < 2 ^ (8 * w)) : wrapN w n = some n :=
  (wrapN_eq w n).trans (if_pos h)

/-- the constructor accepts exactly the in-range integers -/
theorem ctor (w : Nat) (x : Int) :
    wrap w x = if 0 ≤ x ∧ x.toNat < 2 ^ (8 * w) then some x.toNat else none := by
  by_cases hx : x < 0
  · rw [wrap, if_pos hx, if_neg fun h => Int.not_le.2 hx h.1]
  · have h0 : 0 ≤ x := Int.not_lt.1 hx
    have := wrapN_eq w x.toNat
    rw [wrapN, Int.toNat_of_nonneg h0] at this
    simp only [this, h0, true_and]

/-- an operand of another width is refused by every coercing operator -/
theorem coerce_other (w w' : Nat) (b : Int) (h : w' ≠ w) : coerceOperand w ⟨some w', b⟩ = none :=
  if_pos (bne_iff_ne.2 h)

private theorem co (w b : Nat) (k : Option Nat) (hk : k = some w ∨ k = none) (hb : b < 2 ^ (8 * w)) :
    coerceOperand w ⟨k, (b : Int)⟩ = some b := by
  rcases hk with rfl | rfl
  · exact (if_neg (by simp)).trans (wrapN_of_lt hb)
  · exact wrapN_of_lt hb

/-- a same-width uint or an in-range plain int is taken as itself -/
theorem coerce_same (w b : Nat) (hb : b < 2 ^ (8 * w)) :
    coerceOperand w ⟨some w, (b : Int)⟩ = some b ∧ coerceOperand w ⟨none, (b : Int)⟩ = some b :=
  ⟨co w b _ (.inl rfl) hb, co w b _ (.inr rfl) hb⟩

/-- a negative or too large plain int is refused -/
theorem coerce_plain_bad (w : Nat) (b : Int) (h : b < 0 ∨ 2 ^ (8 * w) ≤ b.toNat) :
    coerceOperand w ⟨none, b⟩ = none := by
  refine (ctor w b).trans (if_neg fun ⟨h0, hlt⟩ => ?_)
  rcases h with h | h
  · exact Int.not_le.2 h h0
  · exact Nat.not_lt.2 h hlt

/-- The operators that coerce their operand, with the coercion done: `directOp` on an operand that
    coerces to `b`, and `reflectedOp` (for `-`, `//`, `%`) with the two sides exchanged. -/
def pureOp (w a : Nat) : BinOp → Nat → Option Nat
  | .add, b => wrapN w (a + b)
  | .sub, b => if a < b then none else wrapN w (a - b)
  | .mul, b => wrapN w (a * b)
  | .floordiv, b => if b = 0 then none else wrapN w (a / b)
  | .mod, b => if b = 0 then none else wrapN w (a % b)
  | .and, b => wrapN w (a &&& b)
  | .or, b => wrapN w (a ||| b)
  | .xor, b => wrapN w (a ^^^ b)
  | _, _ => none

def Coercing : BinOp → Bool
  | .add | .sub | .mul | .floordiv | .mod | .and | .or | .xor => true
  | _ => false

theorem directOp_coercing (w a : Nat) (op : BinOp) (o : Operand) (hop : Coercing op) :
    directOp w a op o = (coerceOperand w o).bind (pureOp w a op) := by
  cases op <;> first | rfl | cases hop

/-- the coercing operators refuse an operand of another width -/
theorem other_width_refused (w w' a : Nat) (b : Int) (h : w' ≠ w) (op : BinOp)
    (hop : op = .add ∨ op = .sub ∨ op = .mul ∨ op = .floordiv ∨ op = .mod ∨ op = .and ∨ op = .or ∨ op = .xor) :
    directOp w a op ⟨some w', b⟩ = none := by
  have : Coercing op := by
    rcases hop with rfl | rfl | rfl | rfl | rfl | rfl | rfl | rfl <;> rfl
  rw [directOp_coercing w a op _ this, coerce_other w w' b h]
  rfl

theorem directOp_co (w a b : Nat) (k : Option Nat) (op : BinOp) (hop : Coercing op)
    (hk : k = some w ∨ k = none) (hb : b < 2 ^ (8 * w)) :
    directOp w a op ⟨k, b⟩ = pureOp w a op b := by
  rw [directOp_coercing w a op _ hop, co w b k hk hb]
  rfl

theorem reflectedOp_co (w a b : Nat) (k : Option Nat) (op : BinOp)
    (hop : op = .sub ∨ op = .floordiv ∨ op = .mod) (hk : k = some w ∨ k = none) (hb : b < 2 ^ (8 * w)) :
    reflectedOp w a op ⟨k, b⟩ = pureOp w b op a := by
  have hc := co w b k hk hb
  rcases hop with rfl | rfl | rfl <;> unfold reflectedOp pureOp <;> simp only [hc, Option.bind_some]

theorem pureOp_sub {w a : Nat} (b : Nat) (ha : a < 2 ^ (8 * w)) :
    pureOp w a .sub b = if b ≤ a then some (a - b) else none := by
  show (if a < b then none else wrapN w (a - b)) = _
  by_cases h : b ≤ a
  · rw [if_neg (Nat.not_lt.2 h), if_pos h, wrapN_of_lt (Nat.lt_of_le_of_lt (Nat.sub_le a b) ha)]
  · rw [if_pos (Nat.lt_of_not_le h), if_neg h]

theorem pureOp_floordiv {w a : Nat} (b : Nat) (ha : a < 2 ^ (8 * w)) :
    pureOp w a .floordiv b = if b = 0 then none else some (a / b) :=
  congrArg (ite _ _) (wrapN_of_lt (Nat.lt_of_le_of_lt (Nat.div_le_self a b) ha))

theorem pureOp_mod {w a : Nat} (b : Nat) (ha : a < 2 ^ (8 * w)) :
    pureOp w a .mod b = if b = 0 then none else some (a % b) :=
  congrArg (ite _ _) (wrapN_of_lt (Nat.lt_of_le_of_lt (Nat.mod_le a b) ha))

section ops
variable (w a b : Nat) (k : Option Nat)

variable (hk : k = some w ∨ k = none) (ha : a < 2 ^ (8 * w)) (hb : b < 2 ^ (8 * w))
set_option linter.unusedSectionVars false
include hk hb

/-- `+`: exactly the sum when it fits, an error otherwise (never wraps) -/
theorem add : directOp w a .add ⟨k, b⟩ = if a + b < 2 ^ (8 * w) then some (a + b) else none :=
  (directOp_co w a b k .add rfl hk hb).trans (wrapN_eq w (a + b))

theorem mul : directOp w a .mul ⟨k, b⟩ = if a * b < 2 ^ (8 * w) then some (a * b) else none :=
  (directOp_co w a b k .mul rfl hk hb).trans (wrapN_eq w (a * b))

include ha

/-- `-`: exactly the difference when it is not negative, an error otherwise -/
theorem sub : directOp w a .sub ⟨k, b⟩ = if b ≤ a then some (a - b) else none :=
  (directOp_co w a b k .sub rfl hk hb).trans (pureOp_sub b ha)

/-- `//`: exact; division by zero is an error -/
theorem floordiv : directOp w a .floordiv ⟨k, b⟩ = if b = 0 then none else some (a / b) :=
  (directOp_co w a b k .floordiv rfl hk hb).trans (pureOp_floordiv b ha)

theorem mod : directOp w a .mod ⟨k, b⟩ = if b = 0 then none else some (a % b) :=
  (directOp_co w a b k .mod rfl hk hb).trans (pureOp_mod b ha)

/-- `&`, `|`, `^` never fail and stay within the width -/
theorem and : directOp w a .and ⟨k, b⟩ = some (a &&& b) :=
  (directOp_co w a b k .and rfl hk hb).trans (wrapN_of_lt (Nat.and_lt_two_pow a hb))

theorem or : directOp w a .or ⟨k, b⟩ = some (a ||| b) :=
  (directOp_co w a b k .or rfl hk hb).trans (wrapN_of_lt (Nat.or_lt_two_pow ha hb))

theorem xor : directOp w a .xor ⟨k, b⟩ = some (a ^^^ b) :=
  (directOp_co w a b k .xor rfl hk hb).trans (wrapN_of_lt (Nat.xor_lt_two_pow ha hb))

/-- reflected forms with a plain int on the left -/
theorem rsub : reflectedOp w a .sub ⟨k, b⟩ = if a ≤ b then some (b - a) else none :=
  (reflectedOp_co w a b k .sub (.inl rfl) hk hb).trans (pureOp_sub a hb)

theorem rfloordiv : reflectedOp w a .floordiv ⟨k, b⟩ = if a = 0 then none else some (b / a) :=
  (reflectedOp_co w a b k .floordiv (.inr (.inl rfl)) hk hb).trans (pureOp_floordiv a hb)

theorem rmod : reflectedOp w a .mod ⟨k, b⟩ = if a = 0 then none else some (b % a) :=
  (reflectedOp_co w a b k .mod (.inr (.inr rfl)) hk hb).trans (pureOp_mod a hb)

end ops

/-- `**` with a non-negative exponent (a count: any uint or int): exact when it fits -/
theorem pow (w a : Nat) (k : Option Nat) (e : Nat) :
    directOp w a .pow ⟨k, (e : Int)⟩ = if a ^ e < 2 ^ (8 * w) then some (a ^ e) else none := by
  unfold directOp
  simp only [Int.toNat_natCast, if_neg (Int.not_lt.2 (Int.natCast_nonneg e)), wrapN_eq]

/-- shifts truncate to the width by definition and never fail for a non-negative amount -/
theorem lshift (w a : Nat) (k : Option Nat) (s : Nat) :
    directOp w a .lshift ⟨k, (s : Int)⟩ = some ((a * 2 ^ s) % 2 ^ (8 * w)) := by
  unfold directOp
  simp only [Int.toNat_natCast, if_neg (Int.not_lt.2 (Int.natCast_nonneg s)),
    wrapN_of_lt (Nat.mod_lt _ (Nat.two_pow_pos (8 * w)))]

theorem rshift (w a : Nat) (k : Option Nat) (s : Nat) (ha : a < 2 ^ (8 * w)) :
    directOp w a .rshift ⟨k, (s : Int)⟩ = some (a / 2 ^ s) := by
  unfold directOp
  simp only [Int.toNat_natCast, if_neg (Int.not_lt.2 (Int.natCast_nonneg s)),
    wrapN_of_lt (Nat.lt_of_le_of_lt (Nat.div_le_self _ _) ha)]

/-- a negative shift amount or exponent is an error -/
theorem neg_count (w a : Nat) (k : Option Nat) (s : Int) (hs : s < 0) :
    directOp w a .pow ⟨k, s⟩ = none ∧ directOp w a .lshift ⟨k, s⟩ = none ∧
    directOp w a .rshift ⟨k, s⟩ = none :=
  ⟨if_pos hs, if_pos hs, if_pos hs⟩

/-- true division is unsupported, in both forms -/
theorem truediv (w a : Nat) (o : Operand) :
    directOp w a .truediv o = none ∧ reflectedOp w a .truediv o = none := ⟨rfl, rfl⟩

/-- inversion stays within the width and flips exactly the low `8w` bits -/
theorem invert_spec (w a : Nat) (ha : a < 2 ^ (8 * w)) :
    ∃ r, invert w a = some r ∧ r < 2 ^ (8 * w) ∧ ∀ i, i < 8 * w → r.testBit i = !a.testBit i := by
  have hlt := Nat.xor_lt_two_pow ha (Nat.sub_lt (Nat.two_pow_pos (8 * w)) Nat.one_pos)
  refine ⟨a ^^^ (2 ^ (8 * w) - 1), wrapN_of_lt hlt, hlt, fun i hi => ?_⟩
  rw [Nat.testBit_xor, Nat.testBit_two_pow_sub_one, decide_eq_true hi, Bool.xor_true]

/-- the result is typed by the uint operand that handles the operation: the left operand when it is
    a uint, otherwise (plain int on the left) the right one — never a plain number, never wider -/
theorem result_type (op : BinOp) (x y : Operand) (r w : Nat) (h : evalBin op x y = some (r, w)) :
    (x.width = some w) ∨ (x.width = none ∧ y.width = some w) := by
  obtain ⟨kx, vx⟩ := x
  obtain ⟨ky, vy⟩ := y
  cases kx with
  | some wx =>
    obtain ⟨_, _, he⟩ := Option.map_eq_some_iff.1 h
    exact .inl (congrArg some (Prod.mk.inj he).2)
  | none =>
    cases ky with
    | some wy =>
      obtain ⟨_, _, he⟩ := Option.map_eq_some_iff.1 h
      exact .inr ⟨rfl, congrArg some (Prod.mk.inj he).2⟩
    | none => cases h

/-- every successful result fits the width of its type -/
theorem result_in_range (w : Nat) (x : Int) (n : Nat) (h : wrap w x = some n) : n < 2 ^ (8 * w) := by
  rw [ctor] at h
  split at h
  · next hc => exact Option.some.inj h ▸ hc.2
  · cases h

example : directOp 1 200 .add ⟨some 1, 100⟩ = none ∧ directOp 1 200 .add ⟨none, 55⟩ = some 255 ∧
    evalBin .lshift ⟨some 1, 200⟩ ⟨some 2, 3⟩ = some (64, 1) ∧
    evalBin .sub ⟨none, 5⟩ ⟨some 2, 7⟩ = none ∧ invert 1 5 = some 250 := by decide +kernel

/-- `b ** x` with a plain non-negative int on the left: the power is computed exactly and must fit the
    width of the EXPONENT's type (`__rpow__`), whatever the base; it never truncates like a shift -/
theorem rpow (w a : Nat) (k : Option Nat) (b : Nat) :
    reflectedOp w a .pow ⟨k, (b : Int)⟩ = if b ^ a < 2 ^ (8 * w) then some (b ^ a) else none := by
  have h1 : ((b : Int) ^ a) = ((b ^ a : Nat) : Int) := by simp [Int.natCast_pow]
  show wrap w ((b : Int) ^ a) = _
  rw [h1]
  exact wrapN_eq w (b ^ a)

/-- in particular `2 ** uintN(n)` raises for every `n ≥ 8·w` (no wrap to 0) -/
theorem rpow_two_overflow (w a : Nat) (k : Option Nat) (h : 8 * w ≤ a) :
    reflectedOp w a .pow ⟨k, (2 : Int)⟩ = none :=
  (rpow w a k 2).trans (if_neg (Nat.not_lt.2 (Nat.pow_le_pow_right (by decide) h)))

example : reflectedOp 1 8 .pow ⟨none, 2⟩ = none ∧ reflectedOp 1 7 .pow ⟨none, 2⟩ = some 128 := by decide +kernel

/-- three-argument power: python's residue `(a ^ e) fmod m` (it has the sign of the modulus) is returned as a value of
    `a`'s type exactly when it lies within the width; a residue outside it (a modulus wider than the type, a negative
    modulus) and a zero modulus raise -/
theorem pow3_spec (w a e : Nat) (m : Int) :
    pow3 w a e m =
      if m = 0 then none
      else if 0 ≤ Int.fmod ((a : Int) ^ e) m ∧ Int.fmod ((a : Int) ^ e) m < 2 ^ (8 * w)
        then some (Int.fmod ((a : Int) ^ e) m).toNat else none := by
  unfold pow3
  rw [ctor]
  generalize Int.fmod ((a : Int) ^ e) m = r
  by_cases h0 : 0 ≤ r
  · simp only [Int.toNat_lt h0, Int.natCast_pow, Int.cast_ofNat_Int]
  · simp only [h0, false_and]

/-- the reflected shift dunders called with a uint on the left are the shift of THAT operand, in ITS type -/
theorem refl_shift_dunder (wx x wy y : Nat) :
    reflShiftDunder .lshift wx x wy y = (directOp wx x .lshift ⟨some wy, (y : Int)⟩).map (·, wx) ∧
    reflShiftDunder .rshift wx x wy y = (directOp wx x .rshift ⟨some wy, (y : Int)⟩).map (·, wx) :=
  ⟨rfl, rfl⟩

example : pow3 1 3 6 1000 = none ∧ pow3 1 3 2 (-5) = none ∧ pow3 1 3 2 5 = some 4 ∧ pow3 1 200 1 256 = some 200 ∧
    pow3 1 3 2 0 = none ∧ reflShiftDunder .lshift 2 0x0101 1 4 = some (0x1010, 2) ∧
    reflShiftDunder .lshift 1 1 2 8 = some (0, 1) := by decide +kernel

/-- negation is unsupported for EVERY operand (zero included); `+a` and `abs a` are `a` in its own type -/
theorem unary (w a : Nat) (ha : a < 2 ^ (8 * w)) :
    evalUn .neg w a = none ∧ evalUn .pos w a = some (a, w) ∧ evalUn .abs w a = some (a, w) := by
  unfold evalUn
  simp [wrapN_of_lt ha]

end Rmk.C13
