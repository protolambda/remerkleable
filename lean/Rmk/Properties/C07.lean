/-
C07 — Tree read/write by generalized index obeys get/set laws.
The path laws are those of Rmk/Proofs/TreeLaws; this file adds what takes `getter`, `setter` and
`summarizeInto` (index 0 refused, otherwise the bit path of the index) to them.  All statements hold
for every pair hash `H`, every tree, every generalized index and every replacement node.
`get_set_above` and `set_expand_nonzero_fails` speak of a split path `q ++ r` and are stated for paths.
-/
import Rmk.Proofs.TreeLaws
import Rmk.Proofs.Gindex
namespace Rmk.C07
open Rmk

/-- a path runs through a leaf of `n`: some proper prefix of it ends in a leaf -/
def RunsThroughLeaf (n : Node) (p : List Bool) : Prop :=
  ∃ q b r c, p = q ++ b :: r ∧ getPath n q = some (.leaf c)

theorem getter_zero (n : Node) : getter n 0 = none := rfl

theorem getter_root (n : Node) : getter n 1 = some n := getter_one n

theorem getter_child (n : Node) (g : Nat) (hg : g ≠ 0) :
    getter n (2 * g) = (getter n g).bind getLeft ∧
    getter n (2 * g + 1) = (getter n g).bind getRight := by
  rw [getter_of_ne n hg, getter_of_ne n (Nat.mul_ne_zero (by decide) hg), getter_of_ne n (Nat.succ_ne_zero _),
    gbits_two_mul hg, gbits_two_mul_add_one hg, getPath_append, getPath_append]
  simp only [getPath_singleton]
  exact ⟨rfl, rfl⟩

theorem runsThroughLeaf_pair_cons (l r : Node) (b : Bool) (bs : List Bool) :
    RunsThroughLeaf (.pair l r) (b :: bs) ↔ RunsThroughLeaf (if b then r else l) bs := by
  constructor
  · rintro ⟨q, b', r', c, hp, hq⟩
    cases q with
    | nil => cases hq
    | cons a q' =>
      obtain ⟨rfl, rfl⟩ := List.cons.inj hp
      exact ⟨q', b', r', c, rfl, (getPath_pair_cons_child ..).symm.trans hq⟩
  · rintro ⟨q, b', r', c, rfl, hq⟩
    exact ⟨b :: q, b', r', c, rfl, (getPath_pair_cons_child ..).trans hq⟩

theorem getPath_none_iff (n : Node) (p : List Bool) :
    getPath n p = none ↔ RunsThroughLeaf n p := by
  induction p generalizing n with
  | nil => simp [RunsThroughLeaf]
  | cons b bs ih =>
    cases n with
    | leaf c => exact iff_of_true rfl ⟨[], b, bs, c, rfl, rfl⟩
    | pair l r => rw [getPath_pair_cons_child, ih, runsThroughLeaf_pair_cons]

/-- Reading at an index `g ≥ 1` follows the bit path of `g` (every path is the bit string of exactly
    one index, `gbits_gindexOfPath`) and fails — with a navigation error, the only failure of
    `getter` — exactly when that path runs through a leaf. -/
theorem getter_fails_iff (n : Node) (g : Nat) (hg : g ≠ 0) :
    getter n g = none ↔ RunsThroughLeaf n (gbits g) := by
  rw [getter_of_ne n hg, getPath_none_iff]

/-- Writing without expansion succeeds exactly where reading does. -/
theorem setter_ok_iff (H : Hash) (n : Node) (g : Nat) (v : Node) :
    (setter H n g false v).isSome = (getter n g).isSome := by
  by_cases hg : g = 0
  · simp [setter, getter, hg]
  · simp [setter, getter, hg, setPath_isSome_iff]

/-- The result has that very node at the position (expansion on or off). -/
theorem get_set_same (H : Hash) (e : Bool) (n : Node) (g : Nat) (v n' : Node)
    (h : setter H n g e v = some n') : getter n' g = some v := by
  obtain ⟨hg, h⟩ := setter_eq_some.1 h
  exact (getter_of_ne n' hg).trans (getPath_setPath_same H e n _ v n' h)

/-- …and is identical everywhere else: at positions that diverge from the written one, … -/
theorem get_set_other (H : Hash) (n : Node) (g g' : Nat) (v n' : Node)
    (h : setter H n g false v = some n') (hg' : g' ≠ 0) (hd : diverge (gbits g) (gbits g') = true) :
    getter n' g' = getter n g' := by
  rw [getter_of_ne n' hg', getter_of_ne n hg']
  exact getPath_setPath_diverge H n _ _ v n' (setter_eq_some.1 h).2 hd

/-- … below it (inside the written node), … -/
theorem get_set_below (H : Hash) (e : Bool) (n : Node) (g : Nat) (r : List Bool) (v n' : Node)
    (h : setter H n g e v = some n') : getPath n' (gbits g ++ r) = getPath v r :=
  getPath_setPath_below H e n _ r v n' (setter_eq_some.1 h).2

/-- … and above it (the old subtree with the same write applied inside). -/
theorem get_set_above (H : Hash) (n : Node) (q r : List Bool) (v n' : Node)
    (h : setPath H false n (q ++ r) v = some n') :
    getPath n' q = (getPath n q).bind (fun m => setPath H false m r v) :=
  getPath_setPath_above H n q r v n' h

/-- The root of the result equals the from-scratch recomputation from the sibling roots along the
    path and the root of the written node. -/
theorem set_root (H : Hash) (n : Node) (g : Nat) (v n' : Node)
    (h : setter H n g false v = some n') : n'.root H = rootWith H n (gbits g) (v.root H) :=
  setPath_root H n _ v n' (setter_eq_some.1 h).2

/-- With expansion enabled the result equals the same (plain) write on the tree in which the
    zero-subtree summaries on the path are materialised; that tree has the same root as the original. -/
theorem set_expand (H : Hash) (n : Node) (g : Nat) (v n' : Node)
    (h : setter H n g true v = some n') :
    ∃ m, Expands H n m ∧ m.root H = n.root H ∧ setter H m g false v = some n' := by
  obtain ⟨hg, h⟩ := setter_eq_some.1 h
  obtain ⟨m, hm, hs⟩ := setPath_expand H n _ v n' h
  exact ⟨m, hm, hm.root_eq, setter_eq_some.2 ⟨hg, hs⟩⟩

/-- Where the position exists, expansion changes nothing. -/
theorem set_expand_noop (H : Hash) (n : Node) (g : Nat) (v m : Node) (hg : getter n g = some m) :
    setter H n g true v = setter H n g false v := by
  by_cases h0 : g = 0
  · simp [setter, h0]
  · rw [getter_of_ne n h0] at hg
    simp only [setter, h0, if_false]
    exact setPath_expand_of_get H n _ v m hg

/-- A leaf above the target that is not the zero-subtree summary of its height is never silently
    discarded: the write fails instead. -/
theorem set_expand_nonzero_fails (H : Hash) (n : Node) (q r : List Bool) (b : Bool) (c : Chunk) (v : Node)
    (hg : getPath n q = some (.leaf c)) (hc : c ≠ zeroHash H (r.length + 1)) :
    setPath H true n (q ++ b :: r) v = none :=
  setPath_expand_nonzero H n q r b c v hg hc

/-- `summarize_into` keeps the root. -/
theorem summarize_root (H : Hash) (n : Node) (g : Nat) (m : Node)
    (h : summarizeInto H n g = some m) : m.root H = n.root H :=
  (summarizePath_summ H n _ m (summarizeInto_eq_some.1 h).2).root_eq

/-! Non-vacuity: a concrete tree, index and node meeting the hypotheses (expansion included). -/

private def H0 : Hash := fun a _ => a
private def t0 : Node := .pair (.leaf [1]) (zeroNode H0 2)

example : setter H0 t0 13 true (.leaf [9]) =
    some (.pair (.leaf [1]) (.pair (.pair (zeroNode H0 0) (.leaf [9])) (zeroNode H0 1))) := by
  decide +kernel

example : getter t0 13 = none ∧ (setter H0 t0 2 false (.leaf [7])).isSome := by decide +kernel

end Rmk.C07
