/-
C12 — Default values are the SSZ zero values.
-/
import Rmk.Proofs.ConstructRoot
import Rmk.Proofs.DefaultNode
import Rmk.Proofs.Leftovers
namespace Rmk.C12
open Rmk

/-- every well-formed type has a default tree, and it has the hash-tree-root of the SSZ zero value -/
theorem default_root (H : Hash) (t : Ty) (hwf : t.wf = true) :
    ∃ n, Impl.defaultNode H t = some n ∧ n.root H = Spec.htr H t (Spec.zeroVal t) := by
  have h := DefaultNode.default_isSome H t hwf
  obtain ⟨n, hn⟩ := Option.isSome_iff_exists.1 h
  exact ⟨n, hn, DefaultNode.default_root H t hwf n hn⟩

/-- the zero value is a valid value -/
theorem zero_valid (t : Ty) (hwf : t.wf = true) : WT t (Spec.zeroVal t) = true :=
  DefaultNode.zeroVal_wt t hwf

/-- the default tree and the explicitly constructed all-zero / empty value have the same root -/
theorem default_eq_explicit (H : Hash) (t : Ty) (hwf : t.wf = true) :
    ∃ n m, Impl.defaultNode H t = some n ∧ Impl.construct H t (Spec.zeroVal t) = some m ∧
      n.root H = m.root H ∧ n.root H = Spec.htr H t (Spec.zeroVal t) := by
  obtain ⟨n, hn⟩ := Option.isSome_iff_exists.1 (DefaultNode.default_isSome H t hwf)
  obtain ⟨m, hm⟩ := Option.isSome_iff_exists.1
    (ConstructRoot.construct_isSome H t (Spec.zeroVal t) hwf (DefaultNode.zeroVal_wt t hwf))
  exact ⟨n, m, hn, hm, DefaultNode.default_eq_construct_root H t hwf n m hm hn,
    DefaultNode.default_root H t hwf n hn⟩

/-- the default tree is navigable wherever the type has fixed structure: reading it completely
    through the view API succeeds and yields the zero value (content of a default-constructed view) -/
theorem default_content (H : Hash) (t : Ty) (hwf : t.wf = true) (n : Node)
    (h : Impl.defaultNode H t = some n) : Impl.readVal H t n = some (Spec.zeroVal t) :=
  DefaultNode.default_read H t hwf n h

/-- omitted container fields take their defaults: a container built with some fields given and the
    others omitted (their `default_node()` is used) represents the value in which the omitted fields
    are the zero values, has its spec root, and the same root as the fully explicit construction -/
theorem omitted_fields (H : Hash) (fs : List Ty) (ovs : List (Option Val))
    (hwf : (Ty.container fs).wf = true) (hwt : Leftovers.WTpartial fs ovs) :
    ∃ n m, Leftovers.containerPartial H fs ovs = some n ∧
      Impl.construct H (.container fs) (.seq (Leftovers.fillDefaults fs ovs)) = some m ∧
      Impl.Repr H (.container fs) (.seq (Leftovers.fillDefaults fs ovs)) n ∧
      n.root H = m.root H ∧
      n.root H = Spec.htr H (.container fs) (.seq (Leftovers.fillDefaults fs ovs)) := by
  have hw := (Ty.wf_container hwf).2
  obtain ⟨n, hn⟩ := Option.isSome_iff_exists.1 (Leftovers.containerPartial_isSome H fs ovs hw hwt)
  have hwtv : WT (.container fs) (.seq (Leftovers.fillDefaults fs ovs)) = true := by
    simpa [WT] using Leftovers.fillDefaults_wt fs ovs hw hwt
  obtain ⟨m, hm⟩ := Option.isSome_iff_exists.1 (ConstructRoot.construct_isSome H _ _ hwf hwtv)
  exact ⟨n, m, hn, hm, Leftovers.containerPartial_repr H fs ovs n hw hn,
    Leftovers.containerPartial_root_eq_explicit H fs ovs n m hwf hn hm,
    Leftovers.containerPartial_root H fs ovs n hwf hn⟩

/-! Non-vacuity: a vector whose chunk count (3) is not a power of two, nested -/
private def H0 : Hash := fun a b => a ++ b
private def t0 : Ty := .container [.vector (.uint 8) 9, .list (.uint 2) 5]
example : t0.wf = true ∧ (Impl.defaultNode H0 t0).isSome = true := by decide +kernel

end Rmk.C12
