/-
C20 — Lazily loaded (virtual) trees behave exactly like materialised trees.
Model: Rmk/Impl/Virtual.lean (mixed trees `MNode` with virtual nodes served by a root-keyed source
`src`; `Serves H src n`: the source serves the materialised tree `n`; `Mat H src m n`: the mixed tree
`m` materialises to `n`).
-/
import Rmk.Proofs.VirtualLaws
import Rmk.Proofs.VirtualViewLaws
import Rmk.Proofs.VirtualIterLaws
import Rmk.Proofs.VirtualApplyLaws
import Rmk.Proofs.VirtualPartial
namespace Rmk.C20
open Rmk Rmk.Virtual Rmk.VirtualLaws

/-- a virtual tree can be created for every tree the source serves, and has the same root -/
theorem virtual_root (H : Hash) (src : Src) (n : Node) (h : Serves H src n) :
    Mat H src (.virt (n.root H)) n ∧ (MNode.virt (n.root H)).root H = n.root H :=
  ⟨mat_virt h, rfl⟩

/-- same navigation results and same navigation errors; the nodes reached have the same roots -/
theorem navigation (H : Hash) (src : Src) (m : MNode) (n : Node) (h : Mat H src m n) (p : List Bool) :
    (getPathM src m p = none ↔ getPath n p = none) ∧
    (∀ m' n', getPathM src m p = some m' → getPath n p = some n' → Mat H src m' n') ∧
    (getPathM src m p).map (·.root H) = (getPath n p).map (·.root H) :=
  ⟨(getPathM_mat h p).1, (getPathM_mat h p).2, getPathM_root h p⟩

/-- writes (with or without expansion) through a virtual backing succeed / fail exactly like on the
    materialised tree and give trees that materialise to the same result — same roots after writes,
    hence same view contents, encodings and roots for every mutation made through them -/
theorem writes (H : Hash) (src : Src) (m v : MNode) (n v' : Node) (e : Bool)
    (h : Mat H src m n) (hv : Mat H src v v') (p : List Bool) :
    (setPathM H src e m p v = none ↔ setPath H e n p v' = none) ∧
    (∀ m' n', setPathM H src e m p v = some m' → setPath H e n p v' = some n' → Mat H src m' n') ∧
    (setPathM H src e m p v).map (·.root H) = (setPath H e n p v').map (·.root H) :=
  ⟨(setPathM_mat e h hv p).1, (setPathM_mat e h hv p).2, setPathM_root e h hv p⟩

/-- each node asks the source for a given child (or for its leaf-ness) at most once: over ANY
    sequence of navigations the log of answered `(node object, query kind)` pairs has no repetition,
    and nothing that is already memoised is asked again -/
theorem at_most_once (src : Src) (ps : List (List Bool)) (m : Memo) :
    (answered (runNavs src ps m).2.2).Nodup ∧
    ∀ pos k, (pos, k) ∈ answered (runNavs src ps m).2.2 → m.has pos k = false :=
  runNavs_at_most_once src ps m

/-- memoising the source's answers cannot change any result (they are functions of the root only) -/
theorem memo_is_sound (src : Src) (tbl : Table) (h : TableOk src tbl) (H : Hash) :
    getPathM (memoSrc src tbl) = getPathM src ∧ setPathM H (memoSrc src tbl) = setPathM H src ∧
    isLeafM (memoSrc src tbl) = isLeafM src := by
  rw [memoSrc_eq h]; exact ⟨rfl, rfl, rfl⟩

/-- one navigation of a path `p` makes at most `|p|` queries, for distinct nodes -/
theorem queries_bounded (src : Src) (m : MNode) (p : List Bool) :
    (getPathLog src m p).2.length ≤ p.length ∧ ((getPathLog src m p).2.map (·.1)).Nodup :=
  ⟨by simpa [length_above] using (getPathLog_sublist src m p).length_le,
    (nodup_above p).sublist (getPathLog_sublist src m p)⟩

/-! ### the VIEW level: reads through a view over a lazily loaded backing

`Rmk/Impl/VirtualView.lean` mirrors the view reads of the model (`readVal`, `readElem`, `viewLen`, `sliceRead`) line by
line over mixed trees: `getter` becomes `getPathM` (a virtual node asks the source), `merkle_root()` the stored root. -/

/-- Every view read (complete read, `view[i]`, `len(view)`, slices) over a mixed tree that materialises to `n`
    — some nodes ordinary, some virtual, at any positions — gives exactly what it gives over `n`: the same value or the
    same failure, for every type (no hypothesis on `t`, on the value or on the shape of the tree). -/
theorem view_reads (H : Hash) (src : Src) (t : Ty) (m : MNode) (n : Node) (h : Mat H src m n) :
    readValM H src t m = Impl.readVal H t n ∧
    (∀ i, readElemM H src t m i = Impl.readElem H t n i) ∧
    viewLenM H src t m = Impl.viewLen H t n ∧
    (∀ a b, sliceReadM H src t m a b = Impl.sliceRead H t n a b) :=
  ⟨VirtualViewLaws.readValM_mat H src t m n h, fun i => VirtualViewLaws.readElemM_mat h t i,
    VirtualViewLaws.viewLenM_mat h t, fun a b => VirtualViewLaws.sliceReadM_mat h t a b⟩

/-- in particular over the wholly virtual node `VirtualNode(root, src)` whose source serves `n` -/
theorem view_reads_wholly_virtual (H : Hash) (src : Src) (t : Ty) (n : Node) (hs : Serves H src n) :
    readValM H src t (.virt (n.root H)) = Impl.readVal H t n ∧
    (∀ i, readElemM H src t (.virt (n.root H)) i = Impl.readElem H t n i) ∧
    viewLenM H src t (.virt (n.root H)) = Impl.viewLen H t n :=
  have h := view_reads H src t _ n (VirtualLaws.mat_virt hs)
  ⟨h.1, h.2.1, h.2.2.1⟩

/-- The other read routes over a mixed tree: the read-only stack iterators (`NodeIter`, `PackedIter`, `BitfieldIter`: a
    virtual bottom node ASKS THE SOURCE whether it is a leaf), the tree-reading serialiser (`encode_bytes` / `serialize`) and
    `to_obj()` (`Impl/VirtualIter.lean`) give exactly what they give over the materialised tree — same results, same
    failures, every type. -/
theorem view_iterators_serialiser_export (H : Hash) (src : Src) (t : Ty) (m : MNode) (n : Node) (h : Mat H src m n) :
    (∀ depth len, VirtualLaws.OptRel (Impl.AllRel (Mat H src)) (nodeIterM src m depth len) (Impl.nodeIter n depth len)) ∧
    (∀ et depth len, packedIterM H src et m depth len = Impl.packedIter H et n depth len) ∧
    (∀ depth len, bitfieldIterM H src m depth len = Impl.bitfieldIter H n depth len) ∧
    serTreeM H src t m = Impl.serTree H t n ∧
    toObjTreeM H src t m = Impl.toObjTree H t n :=
  ⟨fun d l => VirtualIterLaws.nodeIterM_rel h d l, fun et d l => VirtualIterLaws.packedIterM_mat h et d l,
    fun d l => VirtualIterLaws.bitfieldIterM_mat h d l, VirtualIterLaws.serTreeM_mat H src t m n h,
    VirtualIterLaws.toObjTreeM_mat H src t m n h⟩

/-- View mutators over a mixed tree (`Impl/VirtualApply.lean`: `set` / `append` / `pop` / `change` of every view kind,
    mirrored line by line; a virtual node on the way asks the source and is rebound into an ordinary pair): a mutator
    fails on the mixed tree exactly when it fails on the materialised one, and the new backings materialise to each other —
    so every later read, root and mutation agrees again (`view_reads`, `virtual_root`). -/
theorem view_mutators (H : Hash) (src : Src) (t : Ty) (m : MNode) (n : Node) (h : Mat H src m n) (op : Impl.Op) :
    VirtualLaws.OptRel (Mat H src) (applyM H src t m op) (Impl.apply H t n op) :=
  VirtualApplyLaws.applyM_rel h t op

/-- … for EVERY HISTORY of mutations through the view, starting from the wholly virtual node: it fails at the same
    operation or ends in backings with the same root. -/
theorem view_history_wholly_virtual (H : Hash) (src : Src) (t : Ty) (n : Node) (hs : Serves H src n) (ops : List Impl.Op) :
    VirtualLaws.OptRel (Mat H src) (applyAllM H src t (.virt (n.root H)) ops) (applyAll H t n ops) ∧
    (applyAllM H src t (.virt (n.root H)) ops).map (·.root H) = (applyAll H t n ops).map (·.root H) :=
  ⟨VirtualApplyLaws.virtual_apply_history hs t ops, VirtualApplyLaws.virtual_apply_history_root hs t ops⟩

/-- A partial tree served lazily (C17 and C20 together: the mixed tree `m` materialises to a tree `p` in which subtrees of
    the complete tree `n` were summarised): every read fails or agrees with the complete tree, the serialiser likewise, and a
    mutator (every operation; `append` needs `ZeroInj H`, as on partial trees in general) fails or succeeds on the complete
    tree too with a backing of the same root. -/
theorem partial_tree_served_lazily (H : Hash) (src : Src) (t : Ty) (m : MNode) (p n : Node)
    (hm : Mat H src m p) (hs : Summ H p n) :
    ((readValM H src t m = none ∨ readValM H src t m = Impl.readVal H t n) ∧
     (∀ i, readElemM H src t m i = none ∨ readElemM H src t m i = Impl.readElem H t n i) ∧
     (viewLenM H src t m = none ∨ viewLenM H src t m = Impl.viewLen H t n) ∧
     (∀ a b, sliceReadM H src t m a b = none ∨ sliceReadM H src t m a b = Impl.sliceRead H t n a b)) ∧
    (serTreeM H src t m = none ∨ serTreeM H src t m = Impl.serTree H t n) ∧
    (∀ op, (∀ v, op ≠ .append v) → applyM H src t m op = none ∨ ∃ m' p' n', applyM H src t m op = some m' ∧
      Impl.apply H t n op = some n' ∧ Mat H src m' p' ∧ Summ H p' n' ∧ m'.root H = n'.root H) ∧
    (PartialViews.ZeroInj H → ∀ op, applyM H src t m op = none ∨ ∃ m' p' n', applyM H src t m op = some m' ∧
      Impl.apply H t n op = some n' ∧ Mat H src m' p' ∧ Summ H p' n' ∧ m'.root H = n'.root H) :=
  ⟨VirtualPartial.reads_fail_or_agree hm hs t, VirtualPartial.ser_fail_or_agree hm hs t,
    fun op hop => VirtualPartial.mutator_root_partial hm hs t op hop,
    fun hZ op => VirtualPartial.mutator_root hZ hm hs t op⟩

end Rmk.C20
