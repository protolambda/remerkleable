/-
C02 — encode_bytes / serialize equal SSZ-spec serialization.
`Spec.serialize` is the SSZ text (little-endian basics, bit packing with a delimiter bit, fixed parts
with 4-byte offsets followed by the variable parts, one selector byte for unions).  First that the
library's tree serialiser computes it; then facts about `Spec.serialize` alone: its layout, that it is
injective on valid values, and that decoding followed by encoding gives the input back.
-/
import Rmk.Proofs.ConstructRoot
import Rmk.Proofs.Sizes
import Rmk.Proofs.DecodeRoundtrip
import Rmk.Proofs.DecodeSound
import Rmk.Proofs.SerTree
namespace Rmk.C02
open Rmk

/-- The library serialises by reading the tree (chunk reads with last-chunk trimming and
    delimiter xor for bitfields, element nodes by index, a running offset and a temporary stream for
    variable-size parts); for every tree that represents `v` — whatever its history — what is written
    is exactly the SSZ serialisation of `v`, and the returned count is exactly its length. -/
theorem serialize_from_tree (H : Hash) (t : Ty) (v : Val) (n : Node) (hwf : t.wf = true)
    (hlim : ReprBasics.limitsOk t = true) (h : Impl.Repr H t v n) :
    Impl.serTree H t n = some (Spec.serialize t v, (Spec.serialize t v).length) :=
  SerTree.repr_ser H t v n hwf hlim h

/-- in particular for every freshly constructed valid value -/
theorem serialize_constructed (H : Hash) (t : Ty) (v : Val) (hwf : t.wf = true)
    (hlim : ReprBasics.limitsOk t = true) (hwt : WT t v = true) :
    ∃ n, Impl.construct H t v = some n ∧
      Impl.serTree H t n = some (Spec.serialize t v, (Spec.serialize t v).length) :=
  (ConstructRoot.repr_exists H t v hwf hwt).imp fun n h => ⟨h.1, serialize_from_tree H t v n hwf hlim h.2⟩

/-- the streaming offset loops of the library produce the spec's fixed-parts / offsets / variable-parts layout -/
theorem streaming_is_interleaving (parts : List (Bool × List UInt8)) :
    Impl.streamFields parts = (Spec.interleave parts, (Spec.interleave parts).length) :=
  SerTree.streamFields_eq parts

/-- the layout: total length = fixed parts (or 4-byte offsets) + variable parts -/
theorem layout_length (parts : List (Bool × List UInt8)) :
    (Spec.interleave parts).length = (parts.map fun p => Spec.partLen p.1 p.2.length).sum :=
  interleave_length parts

/-- the encoding determines the value: two valid values with the same encoding are equal -/
theorem encoding_injective (t : Ty) (v w : Val) (hwf : t.wf = true) (hv : WT t v = true) (hw : WT t w = true)
    (hlen : (Spec.serialize t v).length < 2 ^ 32) (h : Spec.serialize t v = Spec.serialize t w) : v = w := by
  have h1 := DecodeRoundtrip.decode_bytes t v hwf hv hlen
  have h2 := DecodeRoundtrip.decode_bytes t w hwf hw (by rw [← h]; exact hlen)
  rw [h] at h1
  rw [h1] at h2
  simpa using h2

/-- the only byte string a decoder-accepted value re-encodes to is the one that was decoded -/
theorem reencode (t : Ty) (hwf : t.wf = true) (b : List UInt8) (v : Val) (rest : List UInt8)
    (h : Impl.deser t b b.length = some (v, rest)) : Spec.serialize t v = b :=
  (DecodeSound.decode_bytes_sound t hwf b v rest h).2.1

end Rmk.C02
