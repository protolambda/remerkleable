/-
C03 — Decoding inverts encoding (bytes and stream-with-scope).
-/
import Rmk.Proofs.DecodeRoundtrip
import Rmk.Proofs.ConstructRoot
namespace Rmk.C03
open Rmk

/-- Decoding the encoding of any valid value from a stream positioned anywhere (any prefix is
    already consumed, any suffix `rest` follows), given the exact scope, succeeds, yields the
    identical content and consumes exactly `scope` bytes: every valid SSZ encoding is accepted. -/
theorem stream_roundtrip (t : Ty) (v : Val) (rest : List UInt8) (hwf : t.wf = true) (hwt : WT t v = true)
    (hlen : (Spec.serialize t v).length < 2 ^ 32) :
    Impl.deser t (Spec.serialize t v ++ rest) (Spec.serialize t v).length = some (v, rest) :=
  DecodeRoundtrip.roundtrip t v rest hwf hwt hlen

/-- `decode_bytes(encode_bytes(v))` -/
theorem bytes_roundtrip (t : Ty) (v : Val) (hwf : t.wf = true) (hwt : WT t v = true)
    (hlen : (Spec.serialize t v).length < 2 ^ 32) :
    Impl.deser t (Spec.serialize t v) (Spec.serialize t v).length = some (v, []) :=
  DecodeRoundtrip.decode_bytes t v hwf hwt hlen

/-- The tree the constructors build from a valid value has the spec hash-tree-root of the value, which
    is what `==` compares. -/
theorem decoded_root (H : Hash) (t : Ty) (v : Val) (hwf : t.wf = true) (hwt : WT t v = true) :
    ∃ n, Impl.construct H t v = some n ∧ n.root H = Spec.htr H t v :=
  ConstructRoot.construct_spec H t v hwf hwt

private def t0 : Ty := .container [.uint 2, .list (.bitlist 9) 3, .union true [.uint 1]]
private def v0 : Val := .seq [.num 513, .seq [.bits [true, false], .bits []], .un 1 (.num 7)]
example : t0.wf = true ∧ WT t0 v0 = true ∧
    (Impl.deser t0 (Spec.serialize t0 v0 ++ [9, 9]) (Spec.serialize t0 v0).length).map
      (fun p => Val.beq p.1 v0 && p.2 == [9, 9]) = some true := by
  decide +kernel

end Rmk.C03
