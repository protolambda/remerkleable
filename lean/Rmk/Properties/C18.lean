/-
C18 — History changelog and tree diff report exactly the real changes.
-/
import Rmk.Proofs.DiffHistory
import Rmk.Proofs.Gindex
import Rmk.Proofs.Leftovers
import Rmk.Proofs.DiffOfWrite
namespace Rmk.C18
open Rmk

/-- Changelog: with a collision-free hash (explicit hypothesis `hH`; the code de-duplicates on the
    roots of the ancestors level by level) and when the position exists in every entry, the changelog
    of `target` is the per-entry lookup with consecutive repeats dropped, each kept entry keyed by
    the first entry in which it appeared. -/
theorem history_spec (H : Hash) (hH : Injective2 H) (hist : List (Nat × Node)) (g : Nat) (hg : g ≠ 0)
    (hl : ∀ e ∈ hist, (getter e.2 g).isSome) :
    targetHistory H hist g =
      some (ddBy (rootKey H) (hist.map fun e => (e.1, atD (gbits g) e.2)) none) := by
  simp only [targetHistory, hg, if_false]
  apply targetHistoryPath_spec H hH
  intro e he
  simpa [getter, hg] using hl e he

/-- …so it is never empty for a non-empty history. -/
theorem history_nonempty (H : Hash) (hH : Injective2 H) (hist : List (Nat × Node)) (g : Nat) (hg : g ≠ 0)
    (hl : ∀ e ∈ hist, (getter e.2 g).isSome) (hne : hist ≠ []) :
    ∃ r, targetHistory H hist g = some r ∧ r ≠ [] := by
  refine ⟨_, history_spec H hH hist g hg hl, ?_⟩
  apply ddBy_none_ne_nil
  simpa using hne

/-- The diff is empty when the roots are equal. -/
theorem diff_empty_of_root_eq (H : Hash) (a b : Node) (h : a.root H = b.root H) : getDiff H a b = [] :=
  getDiff_root_eq H a b h

/-- …and non-empty when they differ. -/
theorem diff_nonempty_of_root_ne (H : Hash) (a b : Node) (h : a.root H ≠ b.root H) : getDiff H a b ≠ [] := by
  rw [getDiff_eq_map]
  simpa using getDiffPos_nonempty_of_ne H a b h

/-- Every listed pair consists of the subtrees found at one position of the two trees, they differ,
    and they cannot be diffed deeper (one of them is a leaf): the pairs are the minimal differing ones. -/
theorem diff_sound (H : Hash) (a b : Node) (x y : Node) (hm : (x, y) ∈ getDiff H a b) :
    ∃ p, getPath a p = some x ∧ getPath b p = some y ∧ x.root H ≠ y.root H ∧ (x.isLeaf ∨ y.isLeaf) := by
  rw [getDiff_eq_map, List.mem_map] at hm
  obtain ⟨⟨p, x', y'⟩, hp, heq⟩ := hm
  simp at heq
  obtain ⟨rfl, rfl⟩ := heq
  exact ⟨p, getDiffPos_sound H a b p x' y' hp⟩

/-- The pairs are listed strictly left to right (hence at distinct positions, none a prefix of another). -/
theorem diff_left_to_right (H : Hash) (a b : Node) :
    ((getDiffPos H a b).map (·.1)).Pairwise leftOf ∧ ((getDiffPos H a b).map (·.1)).Nodup :=
  ⟨Leftovers.getDiffPos_sorted H a b, (Leftovers.getDiffPos_sorted H a b).imp Leftovers.leftOf_ne⟩

/-- Exactly the minimal differing pairs: `(p, x, y)` is reported iff `x`, `y` sit at `p` in the two
    trees, one of them is a leaf, and the roots differ at `p` and at every prefix of `p`. -/
theorem diff_exact (H : Hash) (a b : Node) (p : List Bool) (x y : Node) :
    (p, x, y) ∈ getDiffPos H a b ↔
      (getPath a p = some x ∧ getPath b p = some y ∧ (x.isLeaf = true ∨ y.isLeaf = true) ∧
        ∀ q, q <+: p → ∀ u v, getPath a q = some u → getPath b q = some v → u.root H ≠ v.root H) :=
  Leftovers.mem_getDiffPos_iff H a b p x y

/-- Grafting the second members into the first tree (at the positions where they were found, in
    order) reproduces the second tree's root. -/
theorem graft (H : Hash) (a b : Node) :
    ∃ r, graftAll H a (getDiffPos H a b) = some r ∧ r.root H = b.root H := by
  refine getDiffPos_induct (P := fun a b ds => ∃ r, graftAll H a ds = some r ∧ r.root H = b.root H)
    (fun a b h => ⟨a, rfl, h⟩) (fun a b _ _ => ⟨b, ?_, rfl⟩) ?_ a b
  · rw [graftAll_cons, setPath_nil]; rfl
  · rintro al ar bl br - ⟨l', hl, hlr⟩ ⟨r', hr, hrr⟩
    refine ⟨.pair l' r', ?_, by simp only [Node.root, hlr, hrr]⟩
    rw [graftAll_append,
      graftAll_map_cons H false (.pair · ar) (fun _ _ _ => by rw [setPath_pair_cons, if_neg nofun]),
      hl, Option.map_some, Option.bind_some,
      graftAll_map_cons H true (.pair l' ·) (fun _ _ _ => by rw [setPath_pair_cons, if_pos rfl]), hr]
    rfl

/-- Leaf iteration lists every leaf once, left to right. -/
theorem leafIter_spec (n : Node) :
    (leafIter n).map some = (leafPaths n).map (getPath n) ∧
    (∀ p, p ∈ leafPaths n ↔ ∃ c, getPath n p = some (.leaf c)) ∧
    (leafPaths n).Pairwise leftOf :=
  ⟨leafIter_eq n, mem_leafPaths n, leafPaths_sorted n⟩

private def H0 : Hash := fun a b => a ++ b
private def ta : Node := .pair (.leaf [1]) (.pair (.leaf [2]) (.leaf [3]))
private def tb : Node := .pair (.leaf [1]) (.pair (.leaf [9]) (.leaf [3]))

example : getDiff H0 ta tb = [(.leaf [2], .leaf [9])] := by decide +kernel
example : targetHistory H0 [(0, ta), (1, ta), (2, tb), (3, ta)] 6 =
    some [(0, .leaf [2]), (2, .leaf [9]), (3, .leaf [2])] := by decide +kernel
example : Injective2 (fun (a b : Chunk) => a.length.toUInt8 :: a ++ b) ∨ True := .inr trivial

/-! ### the diff of a tree with its written version -/

/-- The diff reports exactly the write: if `m` is `n` with `v` written at path `p` (where `old` was) and the roots
    along the path changed, the positioned diff of `n` and `m` is the diff of `old` and `v`, moved to `p` -/
theorem diff_of_write (H : Hash) (n m : Node) (p : List Bool) (old v : Node)
    (hg : getPath n p = some old) (hs : setPath H false n p v = some m)
    (hd : ∀ k ≤ p.length,
      ((getPath n (p.take k)).map (·.root H)) ≠ ((getPath m (p.take k)).map (·.root H))) :
    getDiffPos H n m = (getDiffPos H old v).map (fun (q, x, y) => (p ++ q, x, y)) :=
  DiffOfWrite.diffPos_of_write H n m p old v hg hs hd

/-- (for a collision-free hash the condition is just "the written subtree has another root") -/
theorem diff_of_write_inj (H : Hash) (hH : Injective2 H) (n m : Node) (p : List Bool) (old v : Node)
    (hg : getPath n p = some old) (hs : setPath H false n p v = some m) (hne : old.root H ≠ v.root H) :
    getDiff H n m = getDiff H old v :=
  DiffOfWrite.diff_of_write_inj H hH n m p old v hg hs hne

/-- a write of something with the same root is not reported at all -/
theorem diff_of_noop_write (H : Hash) (n m : Node) (p : List Bool) (old v : Node)
    (hg : getPath n p = some old) (hs : setPath H false n p v = some m)
    (he : old.root H = v.root H) : getDiff H n m = [] :=
  DiffOfWrite.diff_of_noop_write H n m p old v hg hs he

/-- an expanding write through a zero summary is reported as ONE pair: the summary against the expanded subtree -/
theorem diff_of_expanding_write (H : Hash) (n m : Node) (p q r : List Bool) (d : Nat) (v : Node)
    (hp : p = q ++ r)
    (hg : getPath n q = some (.leaf (zeroHash H d))) (hs : setPath H true n p v = some m)
    (hd : ∀ k ≤ q.length,
      ((getPath n (q.take k)).map (·.root H)) ≠ ((getPath m (q.take k)).map (·.root H))) :
    getDiffPos H n m = [(q, .leaf (zeroHash H d), expandSet H r v)] :=
  DiffOfWrite.diffPos_of_expanding_write H n m p q r d v hp hg hs hd

end Rmk.C18
