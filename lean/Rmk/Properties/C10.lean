/-
C09 — Decoding arbitrary bytes is safe: clean rejection or a well-formed value.
C10 — Decoding accepts only the canonical encoding.
One soundness theorem carries both (the decoder mirror is a total Lean function: it terminates on
every input by construction).  Also the work bound of C09 (`work_linear`) and the decode route of C01
(`bitfield_decoder_tree`).
-/
import Rmk.Proofs.DecodeSound
import Rmk.Proofs.DecodeRoundtrip
import Rmk.Proofs.ConstructRoot
import Rmk.Proofs.Sizes
import Rmk.Proofs.DeserWorkBound
import Rmk.Proofs.DeserTreeLaws
namespace Rmk.C10
open Rmk

/-- Whenever decoding `scope` bytes of a stream succeeds, the result is a valid value of the type
    (lengths within limits, integers in range, valid selector), re-encoding it reproduces exactly
    the consumed bytes, and exactly `scope` bytes were consumed. -/
theorem sound (t : Ty) (hwf : t.wf = true) (s : List UInt8) (scope : Nat) (v : Val) (rest : List UInt8)
    (hs : scope ≤ s.length) (h : Impl.deser t s scope = some (v, rest)) :
    WT t v = true ∧ Spec.serialize t v = s.take scope ∧ rest = s.drop scope :=
  DecodeSound.sound t hwf s scope v rest hs h

/-- `decode_bytes`: success means the input IS the SSZ encoding of the returned value. -/
theorem canonical (t : Ty) (hwf : t.wf = true) (b : List UInt8) (v : Val) (rest : List UInt8)
    (h : Impl.deser t b b.length = some (v, rest)) :
    WT t v = true ∧ Spec.serialize t v = b ∧ rest = [] :=
  DecodeSound.decode_bytes_sound t hwf b v rest h

/-- No two distinct byte strings decode to the same value. -/
theorem injective (t : Ty) (hwf : t.wf = true) (b1 b2 : List UInt8) (v : Val) (r1 r2 : List UInt8)
    (h1 : Impl.deser t b1 b1.length = some (v, r1)) (h2 : Impl.deser t b2 b2.length = some (v, r2)) :
    b1 = b2 :=
  DecodeSound.injective t hwf b1 b2 v r1 r2 h1 h2

/-- The set of accepted strings is exactly the set of valid SSZ encodings of the type. -/
theorem accepted_iff_valid_encoding (t : Ty) (hwf : t.wf = true) (b : List UInt8) (hb : b.length < 2 ^ 32) :
    (∃ v rest, Impl.deser t b b.length = some (v, rest)) ↔ (∃ v, WT t v = true ∧ Spec.serialize t v = b) := by
  constructor
  · rintro ⟨v, rest, h⟩
    obtain ⟨h1, h2, _⟩ := canonical t hwf b v rest h
    exact ⟨v, h1, h2⟩
  · rintro ⟨v, hwt, rfl⟩
    exact ⟨v, [], DecodeRoundtrip.decode_bytes t v hwf hwt hb⟩

/-- C09: an accepted input yields a value that can be built (every element readable), whose root is
    the spec root of its content, whose encoding and reported byte length are those of the input,
    within the type's bounds, and which is stable under a further encode/decode cycle. -/
theorem safe (H : Hash) (t : Ty) (hwf : t.wf = true) (b : List UInt8) (v : Val) (rest : List UInt8)
    (hb : b.length < 2 ^ 32) (h : Impl.deser t b b.length = some (v, rest)) :
    WT t v = true ∧
    (∃ n, Impl.construct H t v = some n ∧ n.root H = Spec.htr H t v) ∧
    (Spec.serialize t v).length = b.length ∧
    Spec.minLen t ≤ b.length ∧ b.length ≤ Spec.maxLen t ∧
    Impl.deser t (Spec.serialize t v) (Spec.serialize t v).length = some (v, []) := by
  obtain ⟨hwt, hser, _⟩ := canonical t hwf b v rest h
  have hbd := serialize_bounds t v hwf hwt
  refine ⟨hwt, ConstructRoot.construct_spec H t v hwf hwt, by rw [hser], ?_, ?_, ?_⟩
  · rw [← hser]; exact hbd.1
  · rw [← hser]; exact hbd.2
  · exact DecodeRoundtrip.decode_bytes t v hwf hwt (by rw [hser]; exact hb)

/-- C09, "decoding terminates": the number of `deserialize` calls (nested ones included) that decoding makes —
    on ANY stream, with any scope, whether it succeeds or raises — is bounded by a linear function of the scope
    whose two constants depend on the type only (`DeserWorkBound.W`, `DeserWorkBound.A`: computable, printed by
    the driver). `Impl.deserWork` follows `Impl.deser` call by call; the harness counts the library's real
    `deserialize` calls on every generated input and compares. -/
theorem work_linear (t : Ty) (hwf : t.wf = true) (s : List UInt8) (scope : Nat) :
    1 ≤ Impl.deserWork t s scope ∧
    Impl.deserWork t s scope ≤ DeserWorkBound.W t * (scope + 1) + DeserWorkBound.A t :=
  ⟨DeserWorkBound.deserWork_pos t s scope, DeserWorkBound.deserWork_le t hwf s scope⟩

/-- C09 / C01 (decode route): the trees that `Bitlist.deserialize` / `Bitvector.deserialize` build DIRECTLY from the
    chunks of the input (every other decoder goes through the constructors) are exactly the constructor trees of the
    decoded bits: same node, hence same root (`Spec.htr`), fully readable, same sharing of zero subtrees. -/
theorem bitfield_decoder_tree (H : Hash) (t : Ty) (s : List UInt8) (scope : Nat) (bits : List Bool) (rest : List UInt8)
    (hwf : t.wf = true) (hk : (∃ lim, t = .bitlist lim) ∨ (∃ len, t = .bitvector len))
    (h : Impl.deser t s scope = some (.bits bits, rest)) :
    ∃ n, DeserTreeLaws.bitfieldTree H t (s.take scope) = some n ∧ Impl.construct H t (.bits bits) = some n ∧
      n.root H = Spec.htr H t (.bits bits) := by
  rcases hk with ⟨lim, rfl⟩ | ⟨len, rfl⟩
  · obtain ⟨_, n, hn, hr⟩ := DeserTreeLaws.decoded_bitlist_root H lim s scope bits rest hwf h
    exact ⟨n, hn, (DeserTreeLaws.bitlist_tree H lim s scope bits rest h).symm.trans hn, hr⟩
  · obtain ⟨_, n, hn, hr⟩ := DeserTreeLaws.decoded_bitvector_root H len s scope bits rest hwf h
    exact ⟨n, hn, (DeserTreeLaws.bitvector_tree H len s scope bits rest h).symm.trans hn, hr⟩

/-! Non-vacuity of `work_linear`: a list of containers holding a list; a valid encoding costs 9 calls, a garbage
    offset 1, the bound at scope 20 is 22 -/
private def tw : Ty := .list (.container [.uint 1, .list (.uint 1) 4]) 3
example : tw.wf = true ∧ DeserWorkBound.W tw * (20 + 1) + DeserWorkBound.A tw = 22 := by decide +kernel

/-! Non-vacuity: a near-valid string (gap before the first variable part) is rejected, the valid one accepted -/
private def t0 : Ty := .container [.list (.uint 1) 10]
example : (Impl.deser t0 [5, 0, 0, 0, 0xaa, 0xbb] 6).isSome = false ∧
    (Impl.deser t0 [4, 0, 0, 0, 0xaa] 5).map (fun p => Val.beq p.1 (.seq [.seq [.num 0xaa]]) && p.2 == []) = some true := by
  decide +kernel

end Rmk.C10
