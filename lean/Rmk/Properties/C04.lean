/-
C04 — A mutated view is indistinguishable from a fresh value with the same content.
`Impl.Repr H t v n` ("n represents v") admits every tree shape the mutators produce (appends with
zero-checked expansion, pops with summarisation).  The mutators preserve it, and everything
observable of such a tree (root, reads, serialisation) is a function of the value.
-/
import Rmk.Proofs.ReprBasics
import Rmk.Proofs.ChunkTree
import Rmk.Proofs.StepRepr
import Rmk.Proofs.SerTree
namespace Rmk.C04
open Rmk Rmk.Impl Rmk.ReprBasics Rmk.ChunkTreeLemmas

/-- One step: every mutator of the public interface (element / field assignment, append, pop, bit
    set, union change; packed and unpacked), applied to a tree that represents `v`, succeeds exactly
    when the value-level operation is allowed, and then yields a tree that represents the updated
    value. -/
theorem step (H : Hash) (t : Ty) (hwf : t.wf = true) (hlim : limitsOk t = true) (v : Val) (n : Node)
    (hr : Impl.Repr H t v n) (op : Op) :
    (Impl.apply H t n op = none ↔ Spec.applyOp t v op = none) ∧
    (∀ n', Impl.apply H t n op = some n' → ∃ v', Spec.applyOp t v op = some v' ∧ Impl.Repr H t v' n') :=
  ⟨StepRepr.step_none_iff H t hwf hlim v n hr op, fun n' h => StepRepr.step_repr H t hwf hlim v n hr op n' h⟩

/-- Every history: after any finite sequence of mutating operations (failed ones leave the view as
    it was) the backing tree represents exactly the value the sequence implies, … -/
theorem history (H : Hash) (t : Ty) (hwf : t.wf = true) (hlim : limitsOk t = true) (ops : List Op)
    (v₀ : Val) (n₀ : Node) (h : Impl.Repr H t v₀ n₀) :
    Impl.Repr H t (StepRepr.runSpec t v₀ ops) (StepRepr.runImpl H t n₀ ops) :=
  StepRepr.history_repr H t hwf hlim ops v₀ n₀ h

/-- … has the spec root of that value, reads back exactly that value, and serialises to exactly its
    SSZ encoding: it is indistinguishable from a freshly constructed value with that content. -/
theorem history_observations (H : Hash) (t : Ty) (hwf : t.wf = true) (hlim : limitsOk t = true)
    (ops : List Op) (v₀ : Val) (n₀ : Node) (h : Impl.Repr H t v₀ n₀) :
    let v := StepRepr.runSpec t v₀ ops
    let n := StepRepr.runImpl H t n₀ ops
    n.root H = Spec.htr H t v ∧ Impl.readVal H t n = some v ∧
      Impl.serTree H t n = some (Spec.serialize t v, (Spec.serialize t v).length) :=
  ⟨StepRepr.history_root H t hwf hlim ops v₀ n₀ h, StepRepr.history_read H t hwf hlim ops v₀ n₀ h,
   SerTree.repr_ser H t _ _ hwf hlim (StepRepr.history_repr H t hwf hlim ops v₀ n₀ h)⟩

/-- whatever its history, a tree that represents `v` has the spec root of `v` (no stale root) -/
theorem same_root (H : Hash) (t : Ty) (v : Val) (n : Node) (hwf : t.wf = true) (h : Impl.Repr H t v n) :
    n.root H = Spec.htr H t v := repr_root H t v n hwf h

/-- …the same root as a freshly constructed value with that content -/
theorem same_root_as_fresh (H : Hash) (t : Ty) (v : Val) (n m : Node) (hwf : t.wf = true)
    (h : Impl.Repr H t v n) (hc : Impl.construct H t v = some m) : n.root H = m.root H :=
  (same_root H t v n hwf h).trans (same_root H t v m hwf (construct_repr H t v m hwf hc)).symm

/-- …and reads back exactly `v` through the view API: same elements and length, nothing left over
    beyond the length, no inaccessible element -/
theorem same_content (H : Hash) (t : Ty) (v : Val) (n : Node) (hwf : t.wf = true)
    (hlim : limitsOk t = true) (h : Impl.Repr H t v n) : Impl.readVal H t n = some v :=
  repr_read H t v n hwf hlim h

/-- the tree operations the mutators are made of keep the "data, then zeros" shape:
    element assignment, … -/
theorem set_keeps_shape (H : Hash) (d : Nat) (ls : List Node) (n : Node) (h : ChunkTree H d ls n)
    (i : Nat) (hi : i < ls.length) (x : Node) :
    ∃ n', Impl.setAt H false n i d x = some n' ∧ ChunkTree H d (ls.set i x) n' := ct_set h hi x

/-- … append by zero-checked expansion, … -/
theorem append_keeps_shape (H : Hash) (d : Nat) (ls : List Node) (n : Node) (h : ChunkTree H d ls n)
    (hlen : ls.length < 2 ^ d) (x : Node) :
    ∃ n', Impl.setAt H true n ls.length d x = some n' ∧ ChunkTree H d (ls ++ [x]) n' := ct_push h hlen x

/-- … pop: zero the last slot, optionally summarise upwards, write the new length. -/
theorem pop_keeps_shape (H : Hash) (d : Nat) (ls : List Node) (c : Node) (h : ChunkTree H d ls c)
    (hne : ls ≠ []) (lenN : Node) (z : Node) (hz : IsZero H 0 z) :
    ∃ c1, Impl.setAt H false (.pair c lenN) (ls.length - 1) (d + 1) z = some (.pair c1 lenN) ∧
      ChunkTree H d ls.dropLast c1 ∧
      ∀ (canSummarize : Bool) (newLen : Nat), ∃ c2,
        Impl.popFinish H (.pair c1 lenN) (pbits (d + 1) (ls.length - 1)) canSummarize newLen
          = some (.pair c2 (lenNode newLen)) ∧ ChunkTree H d ls.dropLast c2 :=
  ct_popFinish h hne lenN hz

/-- a "data, then zeros" tree has the spec merkleization of its data as root -/
theorem shape_root (H : Hash) (d : Nat) (ls : List Node) (n : Node) (h : ChunkTree H d ls n) :
    n.root H = Spec.merkleize H (ls.map (·.root H)) d := ct_root h

end Rmk.C04
