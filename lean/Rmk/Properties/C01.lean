/-
C01 — hash_tree_root equals SSZ-spec merkleization for every type and value.
-/
import Rmk.Proofs.Merkle
import Rmk.Proofs.ConstructRoot
import Rmk.Proofs.DefaultNode
namespace Rmk.C01
open Rmk Rmk.Spec

/-- `zero_hashes[d]` is the Merkle root of 2^d zero chunks. -/
theorem zero_hashes (H : Hash) (d : Nat) : zeroHash H d = merkleizeNaive H [] d :=
  zeroHash_eq_merkleizeNaive H d

/-- The executable merkleization (virtual padding) is the SSZ text's merkleization (pad with zero
    chunks up to the capacity, reduce layer by layer). -/
theorem merkleize_is_spec (H : Hash) (chunks : List Chunk) (d : Nat) (h : chunks.length ≤ 2 ^ d) :
    merkleize H chunks d = merkleizeNaive H chunks d :=
  merkleize_eq_naive H chunks d h

/-- The library's TOP-DOWN tree construction with zero-subtree summaries has the BOTTOM-UP spec
    root, for every list of bottom nodes that fits the depth (chunk and power-of-two boundaries
    included). -/
theorem fill_root (H : Hash) (nodes : List Node) (d : Nat) (h : nodes.length ≤ 2 ^ d) :
    ∃ n, fillToContents H nodes d = some n ∧ n.root H = merkleize H (nodes.map (·.root H)) d :=
  fillToContents_root H nodes d h

theorem fill_too_many (H : Hash) (nodes : List Node) (d : Nat) (h : nodes.length > 2 ^ d) :
    fillToContents H nodes d = none := fillToContents_none H nodes d h

/-- default trees: `subtree_fill_to_length` -/
theorem fill_length_root (H : Hash) (bottom : Node) (d len : Nat) (h : len ≤ 2 ^ d) :
    ∃ n, fillToLength H bottom d len = some n ∧
      n.root H = merkleize H (List.replicate len (bottom.root H)) d :=
  fillToLength_root H bottom d len h

/-- `get_depth` gives the smallest power-of-two capacity -/
theorem depth_capacity (n : Nat) : n ≤ 2 ^ getDepth n ∧ (getDepth n = 0 ∨ 2 ^ (getDepth n - 1) < n) :=
  ⟨two_pow_getDepth n, getDepth_minimal n⟩

/-- The constructor theorem: for every well-formed type and every valid value the tree built by the
    constructors exists and has the SSZ-spec hash-tree-root. -/
theorem construct_root (H : Hash) (t : Ty) (v : Val) (hwf : t.wf = true) (hwt : WT t v = true) :
    ∃ n, Impl.construct H t v = some n ∧ n.root H = Spec.htr H t v :=
  ConstructRoot.construct_spec H t v hwf hwt

/-- whatever tree a constructor returns has the spec root of the value it was given -/
theorem construct_root' (H : Hash) (t : Ty) (v : Val) (n : Node) (hwf : t.wf = true)
    (h : Impl.construct H t v = some n) : n.root H = Spec.htr H t v :=
  ConstructRoot.construct_root H t v n hwf h

/-- the constructors accept exactly the valid values -/
theorem construct_iff_valid (H : Hash) (t : Ty) (v : Val) (hwf : t.wf = true) :
    (Impl.construct H t v).isSome = true ↔ WT t v = true := by
  constructor
  · intro h
    rw [Option.isSome_iff_exists] at h
    obtain ⟨n, hn⟩ := h
    exact ConstructRoot.construct_some_wt H t v n hn hwf
  · exact ConstructRoot.construct_isSome H t v hwf

/-- default route: the default tree has the root of the zero value -/
theorem default_root (H : Hash) (t : Ty) (hwf : t.wf = true) (n : Node)
    (h : Impl.defaultNode H t = some n) : n.root H = Spec.htr H t (Spec.zeroVal t) :=
  DefaultNode.default_root H t hwf n h

private def H0 : Hash := fun a b => a ++ b
private def t0 : Ty := .list (.container [.uint 2, .list (.uint 1) 5]) 5
private def v0 : Val := .seq [.seq [.num 1, .seq [.num 2]], .seq [.num 3, .seq []], .seq [.num 65535, .seq [.num 9, .num 8]]]
example : t0.wf = true ∧ WT t0 v0 = true ∧ (Impl.construct H0 t0 v0).isSome = true := by decide +kernel

end Rmk.C01
